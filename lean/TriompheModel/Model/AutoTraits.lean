import TriompheModel.FactsTraits
/-!
# M7 — auto traits and borrow signatures (property C13)

An executable model of two rustc rules, applied to the *extracted tables* (`FactsTraits`), never to
a hand-written description of the crate.  Core Lean only (it is linked into `drv_traits`).

(i)  **Auto-trait resolution.**  For a struct `K` and a class `(send?, sync?, sized?)` for each of
     its type arguments: `K<..>` is `Send` iff an explicit `impl Send for K<P..>` exists whose bounds
     hold under the assignment; if there is **no** explicit impl, structurally: every field is
     `Send`, where `NonNull<_>`, `*const _`, `*mut _` never are, `PhantomData<X>` iff `X`,
     `&X: Send` iff `X: Sync`, `&mut X: Send` iff `X: Send`, `AtomicUsize` always, a parameter per
     its class, a nested struct recursively.  Same for `Sync` (`&X: Sync` iff `X: Sync`).
     The recursion is on a fuel counter (total, kernel-reducible, so `decide` can run it).

(ii) **Borrow signatures.**  Lifetime elision (rules 2 and 3 of the reference) and the
     signature-level outlives relation: `regionBounded sig` says every region position of the return
     type is the receiver's region, a lifetime parameter of the `Self` type (with a `Self`-typed
     receiver), or declared to be outlived by one of those — and is not `'static` over the payload
     nor a fresh method-level lifetime.  `higherRanked cb` says a callback bound quantifies over the
     region of the reference it is handed.

What is *modelled, not verified*: that rustc implements exactly these two rules; the borrow checker
itself (the model stops at the signature).
-/
namespace AutoTraits
open FactsTraits

/-- The auto-trait class of a type: everything a `Send`/`Sync`/`?Sized` bound can observe. -/
structure Class where
  send : Bool
  sync : Bool
  sized : Bool
deriving DecidableEq, Repr, Inhabited

/-- fail-closed class -/
def Class.bot : Class := ⟨false, false, false⟩
/-- `usize`, `AtomicUsize`, … -/
def Class.top : Class := ⟨true, true, true⟩

/-- the 8 classes (4 auto-trait classes × sized/unsized) -/
def allClasses : List Class :=
  [⟨true, true, true⟩, ⟨true, false, true⟩, ⟨false, true, true⟩, ⟨false, false, true⟩,
   ⟨true, true, false⟩, ⟨true, false, false⟩, ⟨false, true, false⟩, ⟨false, false, false⟩]

theorem mem_allClasses (c : Class) : c ∈ allClasses := by
  obtain ⟨a, b, s⟩ := c
  revert a b s
  decide

/-- all assignments for `n` type parameters -/
def classLists : Nat → List (List Class)
  | 0 => [[]]
  | n + 1 => allClasses.flatMap (fun c => (classLists n).map (fun cs => c :: cs))

theorem mem_classLists : ∀ (cs : List Class), cs ∈ classLists cs.length
  | [] => by simp [classLists]
  | c :: cs => by
    simp only [classLists, List.length_cons, List.mem_flatMap, List.mem_map]
    exact ⟨c, mem_allClasses c, cs, mem_classLists cs, rfl⟩

structure Tables where
  structs : List StructDef
  impls : List ImplHdr

abbrev Env := List (String × Class)

def Env.get (env : Env) (p : String) : Class :=
  match env.find? (fun e => e.1 == p) with
  | some e => e.2
  | none => Class.bot

/-! ### (i) auto traits -/

/-- Does one bound hold for a type of class `c`?  `lts` = the lifetime arguments of the impl's self
type: `T: 'a` for such an `'a` is implied by well-formedness of `K<'a, T>` (see
`class_abstraction_complete`).  `'static` and foreign traits are not class-determined: fail closed. -/
def boundHolds (lts : List String) (c : Class) : Bound → Bool
  | .send => c.send
  | .sync => c.sync
  | .qsized => true
  | .sized => c.sized
  | .outlives l => lts.contains l
  | .static => false
  | .other _ => false

/-- a parameter's bound set: the implicit `Sized` unless `?Sized` is written, and every bound -/
def boundsHold (lts : List String) (bs : List Bound) (c : Class) : Bool :=
  (bs.contains .qsized || c.sized) && bs.all (boundHolds lts c)

def typeParams (ps : List Param) : List Param := ps.filter (fun p => p.kind == .type)

/-- an explicit impl applies to `K<cs..>` -/
def implApplies (i : ImplHdr) (cs : List Class) : Bool :=
  i.generic && !i.negative && i.whereOther.isEmpty && i.selfArgs.length == cs.length &&
  (typeParams i.params).all (fun p => i.selfArgs.contains p.name) &&
  (i.selfArgs.zip cs).all (fun pc =>
    match i.params.find? (fun p => p.name == pc.1 && p.kind == .type) with
    | some p => boundsHold i.selfLts p.bounds pc.2
    | none => false)

def implsFor (tb : Tables) (name : String) (t : TraitId) : List ImplHdr :=
  tb.impls.filter (fun i => i.selfTy == name && i.trait_ == t)

/-- class of the struct `name` applied to arguments of classes `cs`, given the class function `rec`
for field types (one level less fuel) -/
def namedClass (rec : Env → Ty → Class) (tb : Tables) (name : String) (cs : List Class) : Class :=
  match tb.structs.find? (fun s => s.name == name) with
  | none => Class.bot
  | some sd =>
    let tps := typeParams sd.params
    if tps.length != cs.length || sd.kind == .union then Class.bot else
    let env : Env := (tps.map (·.name)).zip cs
    let fcs := sd.fields.map (fun f => rec env f.ty)
    let sendI := implsFor tb name .send
    let syncI := implsFor tb name .sync
    { send := if sendI.isEmpty then fcs.all (·.send) else sendI.any (implApplies · cs)
      sync := if syncI.isEmpty then fcs.all (·.sync) else syncI.any (implApplies · cs)
      sized := match sd.kind, fcs.getLast? with
               | .struct, some c => c.sized
               | _, _ => true }

/-- class of a type under an assignment of classes to the parameters in scope -/
def tyClass (tb : Tables) : Nat → Env → Ty → Class
  | 0, _, _ => Class.bot
  | n + 1, env, ty =>
    match ty with
    | .param p => env.get p
    | .nonNull _ => ⟨false, false, true⟩
    | .rawPtr _ _ => ⟨false, false, true⟩
    | .phantom t => let c := tyClass tb n env t; ⟨c.send, c.sync, true⟩
    | .ref _ m t =>
      let c := tyClass tb n env t
      if m then ⟨c.send, c.sync, true⟩ else ⟨c.sync, c.sync, true⟩
    | .tuple ts =>
      let cs := ts.map (tyClass tb n env)
      ⟨cs.all (·.send), cs.all (·.sync), match cs.getLast? with | some c => c.sized | none => true⟩
    | .atomicUsize => Class.top
    | .prim name => ⟨true, true, name != "str"⟩
    | .named name _ args => namedClass (tyClass tb n) tb name (args.map (tyClass tb n env))
    | .array t => let c := tyClass tb n env t; ⟨c.send, c.sync, true⟩
    | .slice t => let c := tyClass tb n env t; ⟨c.send, c.sync, false⟩
    | .unknown _ => Class.bot

def fuel : Nat := 8

/-- class of the handle kind `K` at argument classes `cs` -/
def kindClass (tb : Tables) (K : String) (cs : List Class) : Class :=
  namedClass (tyClass tb fuel) tb K cs

def isSend (tb : Tables) (K : String) (cs : List Class) : Bool := (kindClass tb K cs).send
def isSync (tb : Tables) (K : String) (cs : List Class) : Bool := (kindClass tb K cs).sync

/-- the struct declaration admits these arguments: a parameter without `?Sized` needs a sized type -/
def wfArgs (tb : Tables) (K : String) (cs : List Class) : Bool :=
  match tb.structs.find? (fun s => s.name == K) with
  | none => false
  | some sd =>
    let tps := typeParams sd.params
    tps.length == cs.length &&
    (tps.zip cs).all (fun pc => pc.1.bounds.contains .qsized || pc.2.sized)

def arity (tb : Tables) (K : String) : Nat :=
  match tb.structs.find? (fun s => s.name == K) with
  | none => 0
  | some sd => (typeParams sd.params).length

def hasExplicit (tb : Tables) (K : String) : Bool :=
  !(implsFor tb K .send).isEmpty && !(implsFor tb K .sync).isEmpty

/-- the bound language of one impl header is the class-only fragment -/
def Bound.classOnly (lts : List String) : Bound → Bool
  | .send | .sync | .qsized | .sized => true
  | .outlives l => lts.contains l
  | .static | .other _ => false

def implWellFormed (i : ImplHdr) : Bool :=
  i.generic && i.isUnsafe && !i.negative && i.whereOther.isEmpty &&
  (typeParams i.params).all (fun p => p.bounds.all (Bound.classOnly i.selfLts))

/-- every `Send`/`Sync` impl of the crate is of the understood shape -/
def boundLanguageOk (tb : Tables) : Bool := tb.impls.all implWellFormed

/-- "shared" handle kinds: `Send` and `Sync` exactly when every payload type is both -/
def sharedKindOk (tb : Tables) (K : String) : Bool :=
  (classLists (arity tb K)).all (fun cs =>
    !wfArgs tb K cs ||
      (isSend tb K cs == cs.all (fun c => c.send && c.sync) &&
       isSync tb K cs == cs.all (fun c => c.send && c.sync)))

/-- "unique" handle kinds (Box-like): `Send` iff payload `Send`, `Sync` iff payload `Sync` -/
def uniqueKindOk (tb : Tables) (K : String) : Bool :=
  (classLists (arity tb K)).all (fun cs =>
    !wfArgs tb K cs ||
      (isSend tb K cs == cs.all (·.send) && isSync tb K cs == cs.all (·.sync)))

/-- plain data (`HeaderSlice`, …): structural, component-wise -/
def plainKindOk (tb : Tables) (K : String) : Bool :=
  (implsFor tb K .send).isEmpty && (implsFor tb K .sync).isEmpty && uniqueKindOk tb K

/-! ### ownership / lifetime markers -/

/-- `p` occurs in `ty` in an owning position (not behind a reference or raw pointer) -/
def ownsParam (p : String) : Nat → Ty → Bool
  | 0, _ => false
  | n + 1, ty =>
    match ty with
    | .param q => q == p
    | .phantom t => ownsParam p n t
    | .tuple ts => ts.any (ownsParam p n)
    | .named _ _ args => args.any (ownsParam p n)
    | .array t => ownsParam p n t
    | .slice t => ownsParam p n t
    | _ => false

/-- a field type that tells dropck/variance that the struct owns a `p`: `PhantomData<..p..>`, a field
of type `p`, or an owning struct applied to `p` (`UniqueArc(Arc<T>)`) — *not* `NonNull<..>` alone -/
def ownsMarker (sd : StructDef) (p : String) : Bool :=
  sd.fields.any (fun f => ownsParam p fuel f.ty)

/-- every type parameter of `K` has an ownership marker -/
def ownsAll (tb : Tables) (K : String) : Bool :=
  match tb.structs.find? (fun s => s.name == K) with
  | none => false
  | some sd => !(typeParams sd.params).isEmpty && (typeParams sd.params).all (fun p => ownsMarker sd p.name)

/-- `PhantomData<&'l P>` -/
def isPhantomRef (l p : String) : Ty → Bool
  | .phantom (.ref (.named l') false (.param q)) => l' == l && q == p
  | _ => false

/-- a borrowed view `K<'l, P>` carries `PhantomData<&'l P>` for its lifetime and each type parameter -/
def borrowMarker (tb : Tables) (K : String) : Bool :=
  match tb.structs.find? (fun s => s.name == K) with
  | none => false
  | some sd =>
    match (sd.params.filter (fun p => p.kind == .lifetime)).map (·.name) with
    | [l] => !(typeParams sd.params).isEmpty &&
        (typeParams sd.params).all (fun p => sd.fields.any (fun f => isPhantomRef l p.name f.ty))
    | _ => false

/-- an enum of borrowed views: every variant field is a `K'<'l, P>` with `K'` a marked borrowed view,
`'l` the enum's own lifetime, and every type parameter used -/
def borrowEnumMarker (tb : Tables) (K : String) : Bool :=
  match tb.structs.find? (fun s => s.name == K) with
  | none => false
  | some sd =>
    match (sd.params.filter (fun p => p.kind == .lifetime)).map (·.name) with
    | [l] =>
      !sd.fields.isEmpty &&
      sd.fields.all (fun f => match f.ty with
        | .named k [.named l'] [.param _] => l' == l && borrowMarker tb k
        | _ => false) &&
      (typeParams sd.params).all (fun p => sd.fields.any (fun f => match f.ty with
        | .named _ _ [.param q] => q == p.name
        | _ => false))
    | _ => false

/-! ### (ii) borrow signatures -/

def _root_.FactsTraits.Sig.recvIsRef (s : Sig) : Bool :=
  match s.recv with
  | .refSelf | .refMutSelf | .thisRef | .thisRefMut => true
  | _ => false

def _root_.FactsTraits.Sig.hasSelfRecv (s : Sig) : Bool :=
  match s.recv with
  | .none | .other => false
  | _ => true

/-- what an *elided* output region resolves to (lifetime elision): rule 3 — a `&self`/`&mut self`
receiver wins; rule 2 — otherwise there must be exactly one input region position.  `true` = it
resolves to the receiver's region. -/
def _root_.FactsTraits.Sig.elidedIsRecv (s : Sig) : Bool :=
  match s.recv with
  | .refSelf | .refMutSelf => true
  | .thisRef | .thisRefMut => s.otherInputs.isEmpty
  | .none => s.otherInputs.length == 1     -- no handle involved: the borrow is derived from the only input
  | _ => false

/-- a named region is bounded by the handle: it *is* the receiver's (named) region, or a lifetime of
the `Self` type while a `Self`-typed receiver is present, or some such region is declared to outlive
it (`'s: 'o`).  A method-level lifetime that no receiver constrains is not.  A function without any
handle-typed receiver (`fn first<'q>(xs: &'q [u8]) -> &'q u8`) lends nothing of a handle: its output
only has to be tied to one of its inputs. -/
def _root_.FactsTraits.Sig.namedOk (s : Sig) : Nat → String → Bool
  | 0, _ => false
  | k + 1, n =>
    (s.recvIsRef && s.recvRegion == .named n) ||
    (s.hasSelfRecv && s.selfLts.contains n) ||
    (s.recv == .none && s.otherInputs.any (fun o => o.region == .named n)) ||
    s.outlives.any (fun ab => ab.2 == n && ab.1 != n && s.namedOk k ab.1)

def _root_.FactsTraits.Sig.occOk (s : Sig) (o : RegionOcc) : Bool :=
  match o.region with
  | .elided => s.elidedIsRecv
  | .named n => s.namedOk 4 n
  | .static => !o.payload
  | .unknown => false

/-- every region position of the return type is bounded by the handle the borrow came from -/
def regionBounded (s : Sig) : Bool := s.outRegions.all s.occOk

/-- how the output is tied (for the driver / probes): all positions to the receiver borrow, all to a
`Self` lifetime, … -/
def _root_.FactsTraits.Sig.tie (s : Sig) : String :=
  if s.outRegions.isEmpty then "none"
  else if !regionBounded s then "unbounded"
  else if s.outRegions.all (fun o => match o.region with
      | .elided => true
      | .named n => s.recvRegion == .named n
      | _ => false) then "recv"
  else if s.outRegions.all (fun o => match o.region with
      | .named n => s.selfLts.contains n
      | _ => false) then "selflt"
  else "mixed"

/-- the bound `F: FnOnce(&X) -> U` quantifies over the region of every reference it is handed:
written without a name (elided ⇒ `for<'r>`), or bound by an explicit `for<'r>` -/
def higherRanked (cb : Callback) : Bool :=
  cb.argRegions.all (fun o => match o.region with
    | .elided => true
    | .named n => cb.forLts.contains n
    | _ => false)

/-- the obligations concern what safe client code can call -/
def _root_.FactsTraits.Sig.obligated (s : Sig) : Bool :=
  -- `unsafe fn CoerciblePtr::replace_ptr` is what the SAFE `unsize::CoerceUnsize::unsize` (feature `unsize`) returns
  -- through: its output type is what safe code gets, so its regions are obligated too
  s.isPub && (!s.isUnsafe || s.trait_ == "CoerciblePtr")

def sigsBounded (sigs : List Sig) : Bool := (sigs.filter Sig.obligated).all regionBounded
def callbacksHigherRanked (sigs : List Sig) : Bool :=
  (sigs.filter Sig.obligated).all (fun s => s.callbacks.all higherRanked)

end AutoTraits
