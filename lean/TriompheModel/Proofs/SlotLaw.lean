import TriompheModel.Proofs.HistLemmasStep
/-!
# Invariants that speak of memory and of each slot's handle

Every invariant of the handle machine but the count invariant itself has the shape `P s.mem ∧ ∀ slot, Q s.mem handle`
(`Holds P Q`): a predicate on memories and a predicate on handle values relative to a memory (`Q := fun _ _ => True` for
the invariants of memory alone).  `SlotLaw P Q` lists what such a pair owes: how `P` and `Q` survive (`Next`) each primitive
memory operation on a block that has owners (`Owned`), and that each handle-to-handle function of the model keeps `Q`.
`SlotLaw.micro`: every `Micro` keeps `Holds P Q`, given the count invariant (which says that the blocks touched have
owners).  Callbacks need nothing of their own: the handle lent is the lender's `OffsetArc` form (`with_raw_offset_arc`)
or the `Arc` it stands for (`transientOf_eq`), and what a script does with it is clone, `clone_arc`, write, drop and
`into_thin` (`SlotLaw.cbStep`, over `CbHolds`).  `SlotLaw.ofMem`: the laws of an invariant of memory alone.
-/
namespace M1

def AllSlots (Q : HV → Prop) (sl : Slots) : Prop := ∀ e, e ∈ sl → Q e.2

namespace AllSlots
variable {Q Q' : HV → Prop} {sl : Slots}

theorem cons (ha : AllSlots Q sl) (i : Nat) {h : HV} (hq : Q h) : AllSlots Q ((i, h) :: sl) := by
  intro e he
  rcases List.mem_cons.1 he with rfl | he
  · exact hq
  · exact ha e he

theorem del (ha : AllSlots Q sl) (i : Nat) : AllSlots Q (delL sl i) := fun e he => ha e (mem_delL.1 he).1

theorem set (ha : AllSlots Q sl) (i : Nat) {h : HV} (hq : Q h) : AllSlots Q (setL sl i h) := by
  intro e he
  rcases mem_setL he with ⟨he', _⟩ | ⟨rfl, _⟩
  · exact ha e he'
  · exact hq

theorem imp (hqq : ∀ h, Q h → Q' h) (ha : AllSlots Q sl) : AllSlots Q' sl := fun e he => hqq _ (ha e he)

theorem slot {s : State} (ha : AllSlots Q s.slots) {i : Nat} {h : HV} (hl : lookup s i = some h) : Q h :=
  ha (i, h) (lookup_mem hl)

end AllSlots

def Next (P : Mem → Prop) (Q : Mem → HV → Prop) (m m' : Mem) : Prop := (P m → P m') ∧ ∀ h, Q m h → Q m' h

/-- a block that has owners: present, live, not abandoned -/
def Owned (m : Mem) (b : Nat) : Prop := ∃ k : Block, m.blocks[b]? = some k ∧ k.live = true ∧ k.leaked = false

def Holds (P : Mem → Prop) (Q : Mem → HV → Prop) (s : State) : Prop := P s.mem ∧ AllSlots (Q s.mem) s.slots

section
variable {P : Mem → Prop} {Q : Mem → HV → Prop}

theorem Next.refl (m : Mem) : Next P Q m m := ⟨id, fun _ => id⟩

theorem Next.trans {a b c : Mem} (h1 : Next P Q a b) (h2 : Next P Q b c) : Next P Q a c :=
  ⟨fun h => h2.1 (h1.1 h), fun h q => h2.2 h (h1.2 h q)⟩

theorem Inv'.owned {s : State} (hi : Inv' s) {i : Nat} {h : HV} (hs : lookup s i = some h) : Owned s.mem h.blk := by
  obtain ⟨k, hk, hl, hnl, _⟩ := hi.slot_block hs
  exact ⟨k, hk, hl, hnl⟩

namespace Holds
variable {s : State} {m' : Mem}

theorem slot (h : Holds P Q s) {i : Nat} {hh : HV} (hl : lookup s i = some hh) : Q s.mem hh := h.2.slot hl

theorem frame (h : Holds P Q s) (hn : Next P Q s.mem m') : Holds P Q ⟨m', s.slots⟩ := ⟨hn.1 h.1, h.2.imp hn.2⟩

theorem put (h : Holds P Q s) (hn : Next P Q s.mem m') (i : Nat) {c : HV} (hc : Q m' c) : Holds P Q (s.put m' i c) :=
  ⟨hn.1 h.1, (h.2.imp hn.2).cons i hc⟩

theorem del (h : Holds P Q s) (hn : Next P Q s.mem m') (i : Nat) : Holds P Q (s.del m' i) :=
  ⟨hn.1 h.1, (h.2.imp hn.2).del i⟩

theorem set (h : Holds P Q s) (hn : Next P Q s.mem m') (i : Nat) {c : HV} (hc : Q m' c) : Holds P Q (s.set m' i c) :=
  ⟨hn.1 h.1, (h.2.imp hn.2).set i hc⟩

end Holds
end

theorem asArc_of_offset {m : Mem} {h : HV} (hk : h.kind = .offset) : asArc m h = Arc.from_raw_offset m h := by
  cases h; subst hk; rfl

theorem asArc_of_thin {m : Mem} {h : HV} (hk : h.kind = .thin) : asArc m h = ThinArc.thick m h := by
  cases h; subst hk; rfl

theorem asArc_of_union {m : Mem} {h : HV} (hk : h.kind = .unionA ∨ h.kind = .unionB) :
    asArc m h = Arc.from_raw m (ArcUnion.borrow h) := by
  cases h; rcases hk with hk | hk <;> subst hk <;> rfl

theorem cloneHandle_arc {m m' : Mem} {h c : HV} (hk : h.kind = .arc) (hc : cloneHandle m h = some (m', c)) : c = h := by
  cases h; subst hk; cases hc; rfl

theorem transientOf_eq {m : Mem} {api : CbApi} {h t : HV} (ht : transientOf m api h = some t) :
    (api = .rawOffset ∧ runConv m h .intoRawOffset = some t ∧ t.kind = .offset) ∨
    (api ≠ .rawOffset ∧ t = asArc m h ∧ (api = .thinWithArcMut → h.kind = .thin)) := by
  cases transientOf_graph ht with
  | rawOffset hg => exact .inl ⟨rfl, if_pos hg, rfl⟩
  | offsetWithArc hg => exact .inr ⟨nofun, (asArc_of_offset hg).symm, nofun⟩
  | borrowArc hg => exact .inr ⟨nofun, (from_raw_of_arc hg.1).trans (asArc_arc hg.1).symm, nofun⟩
  | borrowUnion hg => exact .inr ⟨nofun, (asArc_of_union hg).symm, nofun⟩
  | thinWithArc hg => exact .inr ⟨nofun, (asArc_of_thin hg).symm, nofun⟩
  | thinWithArcMut hg => exact .inr ⟨nofun, (asArc_of_thin hg).symm, fun _ => hg⟩

structure SlotLaw (P : Mem → Prop) (Q : Mem → HV → Prop) : Prop where
  mIncr : ∀ {m : Mem} {b : Nat}, Owned m b → Next P Q m (incr m b)
  mDrop : ∀ {m : Mem} {a : HV}, Owned m a.blk → Q m a → Next P Q m (Arc.drop m a)
  mWrite : ∀ (m : Mem) (b v : Nat), Next P Q m (writeVal m b v)
  mCloneVal : ∀ (m : Mem) (b : Nat), Next P Q m (cloneValue m b).1
  mMoveOut : ∀ {m : Mem} {u : HV}, Owned m u.blk → Q m u → Next P Q m (UniqueArc.into_inner m u).1
  /-- `Arc::new(T::clone(..))` in `make_mut`, through the `Arc` that a sized `Arc` or an `OffsetArc` stands for.  The fresh
  `Arc` has the view type `(asArc m h).ty`; nothing here says that an `OffsetArc` is sized, so a `Q` that looks at view types
  must (as `LenOk.off` does for `tyLaw`) -/
  mCloneNew : ∀ {m : Mem} {h : HV}, Q m h → (h.kind = .arc ∧ h.ty = .sized ∨ h.kind = .offset) →
    let a := asArc m h
    let r := Arc.new (cloneValue m a.blk).1 a.ty (cloneValue m a.blk).2
    Next P Q m r.1 ∧ Q r.1 r.2
  qClone : ∀ {m m' : Mem} {h c : HV}, cloneHandle m h = some (m', c) → Q m h → Q m c
  qAsArc : ∀ {m : Mem} {h : HV}, Q m h → Q m (asArc m h)
  qConv : ∀ {m : Mem} {h h' : HV} {c : Conv}, runConv m h c = some h' → Q m h → Q m h'
  /-- the premises are the guards of `Micro.intoThin`: the length test of `Arc::into_thin` passed -/
  qIntoThin : ∀ {m : Mem} {h : HV}, h.kind = .arc → h.ty = .hwl →
    ((m.blocks[h.blk]?.bind (·.recLen))).getD 0 = h.len → Q m h → Q m (ThinArc.of_arc h)
  /-- `try_unique` on an `Arc`; `into_inner` treats an `Arc` that passed the gate as the `UniqueArc` it is -/
  qUniq : ∀ {m : Mem} {h : HV}, Q m h → h.kind = .arc ∨ h.kind = .uniq → Q m { h with kind := .uniq }
  /-- the `OffsetArc` that `OffsetArc::make_mut` writes back: `f` is the `Arc` the old one stood for, or a fresh one -/
  qOffBack : ∀ {m m' : Mem} {h f : HV}, Q m h → h.kind = .offset → Q m' f → f.kind = .arc → f.ty = (asArc m h).ty →
    Q m' (Arc.into_raw_offset m' f)

namespace SlotLaw
variable {P : Mem → Prop} {Q : Mem → HV → Prop} (L : SlotLaw P Q)
include L

/-- the `ThinArc` that `with_arc_mut` writes back: `into_thin` of the `Arc` a `ThinArc` stands for, whose length is the
stored one -/
theorem thinBack {m : Mem} {h : HV} (hk : h.kind = .thin) (hq : Q m h) : Q m (ThinArc.of_arc (ThinArc.thick m h)) :=
  L.qIntoThin (h := ThinArc.thick m h) rfl rfl (by cases h; subst hk; rfl) (asArc_of_thin hk ▸ L.qAsArc hq)

theorem make_mut {m m' : Mem} {h f : HV} {cp : Bool} (ho : Owned m h.blk) (hq : Q m h)
    (hg : h.kind = .arc ∧ h.ty = .sized ∨ h.kind = .offset)
    (hmm : Arc.make_mut m (asArc m h) cp = (m', some f)) :
    Next P Q m m' ∧ Q m' f ∧ f.kind = .arc ∧ f.ty = (asArc m h).ty := by
  cases make_mut_graph hmm with
  | unique => exact ⟨.refl m, L.qAsArc hq, asArc_kind m h, rfl⟩
  | redirected =>
    obtain ⟨hn, hf⟩ := L.mCloneNew hq hg
    obtain ⟨k, hk, hl, hnl⟩ := ho
    -- the block released is still what it was
    have hlt : (asArc m h).blk < (cloneValue m (asArc m h).blk).1.blocks.length := by
      rw [length_cloneValue, asArc_blk]; exact (List.getElem?_eq_some_iff.1 hk).1
    have hd := L.mDrop ⟨k, by rwa [arc_new_get _ _ _ hlt, cloneValue_blocks, asArc_blk], hl, hnl⟩ (hn.2 _ (L.qAsArc hq))
    exact ⟨hn.trans hd, hd.2 _ hf, rfl, rfl⟩

/-- what a callback script maintains; under `with_arc_mut` the handle lent is an `Arc` and may go into a slot as a
`ThinArc` -/
def CbHolds (P : Mem → Prop) (Q : Mem → HV → Prop) (api : CbApi) (src : Nat) (s : State) (t : HV) : Prop :=
  CbP src s t ∧ Holds P Q s ∧ Q s.mem t ∧ (api = .rawOffset → t.kind = .offset) ∧
    (api = .thinWithArcMut → t.kind = .arc ∧ Q s.mem (ThinArc.of_arc t))

theorem cbStart {s : State} {src : Nat} {api : CbApi} {h t : HV} (hi : Inv' s) (hh : Holds P Q s)
    (hs : lookup s src = some h) (ht : transientOf s.mem api h = some t) : CbHolds P Q api src s t := by
  refine ⟨.start hi hs ht, hh, ?_⟩
  rcases transientOf_eq ht with ⟨_, hc, hk⟩ | ⟨hne, rfl, hm⟩
  · exact ⟨L.qConv hc (hh.slot hs), fun _ => hk, fun e => by subst e; cases ‹CbApi.thinWithArcMut = CbApi.rawOffset›⟩
  · refine ⟨L.qAsArc (hh.slot hs), fun e => absurd e hne, fun e => ⟨asArc_kind _ _, ?_⟩⟩
    rw [asArc_of_thin (hm e)]
    exact L.thinBack (hm e) (hh.slot hs)

theorem cbStep {api : CbApi} {src : Nat} {s s' : State} {t t' : HV} {a : CbAct} {tk : Mon.CbTok} {piece : String}
    (hc : CbStep api src s t a s' t' tk piece) (hp : CbHolds P Q api src s t) : CbHolds P Q api src s' t' := by
  obtain ⟨hcb, hh, hq, hro, hmut⟩ := hp
  refine ⟨hc.cbp hcb, ?_⟩
  have ho : Owned s.mem t.blk := by
    obtain ⟨hi, _, hls, hbs, _⟩ := hcb
    exact hbs ▸ hi.owned hls
  have lent {m' : Mem} (hn : Next P Q s.mem m') : Q m' t ∧ (api = .rawOffset → t.kind = .offset) ∧
      (api = .thinWithArcMut → t.kind = .arc ∧ Q m' (ThinArc.of_arc t)) :=
    ⟨hn.2 _ hq, hro, fun e => ⟨(hmut e).1, hn.2 _ (hmut e).2⟩⟩
  cases hc with
  | cnt | read | skip | mutNone => exact ⟨hh, hq, hro, hmut⟩
  | @cloned k m c hk hcl =>
    obtain ⟨rfl, _⟩ := cloneHandle_spec hcl
    have hn := L.mIncr ho
    refine ⟨hh.put hn k ?_, lent hn⟩
    by_cases ha : api = .thinWithArcMut
    · rw [if_pos ha, cloneHandle_arc (hmut ha).1 hcl]; exact hn.2 _ (hmut ha).2
    · rw [if_neg ha]; exact hn.2 _ (L.qClone hcl hq)
  | clonedArc hk ha =>
    have hn := L.mIncr ho
    refine ⟨hh.put hn _ ?_, lent hn⟩
    rw [clone_arc_of_offset (hro ha)]
    exact hn.2 _ (L.qAsArc hq)
  | mutSome => exact ⟨hh.frame (L.mWrite ..), lent (L.mWrite ..)⟩
  | @replaced k h2 ha _ hlk hthin =>
    subst ha
    have hn := L.mDrop ho hq
    have h2q := hh.slot hlk
    have hb := hn.2 _ (L.thinBack hthin h2q)
    refine ⟨(hh.del hn k).set (.refl _) src hb, ?_, nofun, fun _ => ⟨rfl, hb⟩⟩
    rw [← asArc_of_thin hthin]
    exact hn.2 _ (L.qAsArc h2q)
  | @swapped k h2 ha _ hlk hthin =>
    subst ha
    have h2q := hh.slot hlk
    have hb := L.thinBack hthin h2q
    refine ⟨(hh.set (.refl _) k (hmut rfl).2).set (.refl _) src hb, ?_, nofun, fun _ => ⟨rfl, hb⟩⟩
    rw [← asArc_of_thin hthin]
    exact L.qAsArc h2q

theorem micro {s s' : State} (hm : Micro s s') (hi : Inv' s) (hh : Holds P Q s) : Holds P Q s' := by
  cases hm with
  | clone _ hs hc =>
    obtain ⟨rfl, _⟩ := cloneHandle_spec hc
    have hn := L.mIncr (hi.owned hs)
    exact hh.put hn _ (hn.2 _ (L.qClone hc (hh.slot hs)))
  | cloneArc _ hs _ =>
    have hn := L.mIncr (hi.owned hs)
    exact hh.put hn _ (hn.2 _ (L.qAsArc (hh.slot hs)))
  | release hs => exact hh.del (L.mDrop (by rw [asArc_blk]; exact hi.owned hs) (L.qAsArc (hh.slot hs))) _
  | conv hs hc => exact hh.set (.refl _) _ (L.qConv hc (hh.slot hs))
  | intoThin hs hk ht hr => exact hh.set (.refl _) _ (L.qIntoThin hk ht hr (hh.slot hs))
  | tryUnique hs hk _ => exact hh.set (.refl _) _ (L.qUniq (hh.slot hs) (.inl hk))
  | write b v => exact hh.frame (L.mWrite _ b v)
  | @moveOut _ h hs _ hu =>
    exact hh.del (L.mMoveOut (u := { h with kind := .uniq }) (show Owned s.mem h.blk from hi.owned hs)
      (L.qUniq (hh.slot hs) (hu.elim .inr fun h => .inl h.1))) _
  | cloneVal b => exact hh.frame (L.mCloneVal _ b)
  | makeMut hs hk hty hmm =>
    rw [← asArc_arc (m := s.mem) hk] at hmm
    obtain ⟨hn, hf, _⟩ := L.make_mut (hi.owned hs) (hh.slot hs) (.inl ⟨hk, hty⟩) hmm
    exact hh.set hn _ hf
  | makeMutOffset hs hk hmm =>
    rw [← asArc_of_offset hk] at hmm
    obtain ⟨hn, hf, hfk, hft⟩ := L.make_mut (hi.owned hs) (hh.slot hs) (.inr hk) hmm
    exact hh.set hn _ (L.qOffBack (hh.slot hs) hk hf hfk hft)
  | cb script acc hs ht =>
    obtain ⟨_, h⟩ := runCb_preserves _ _ (CbHolds P Q _ _) L.cbStep script s _ acc (L.cbStart hi hh hs ht)
    exact h.2.1

theorem micros {s s' : State} (hm : Micros s s') (hi : Inv' s) (hh : Holds P Q s) : Holds P Q s' :=
  (hm.preserves (P := fun s => Inv' s ∧ Holds P Q s) (fun h q => ⟨q.1.micro h, L.micro h q.1 q.2⟩) ⟨hi, hh⟩).2

end SlotLaw

theorem SlotLaw.ofMem {P : Mem → Prop}
    (incr : ∀ {m : Mem} {b : Nat}, Owned m b → P m → P (incr m b))
    (drop : ∀ {m : Mem} {a : HV}, Owned m a.blk → P m → P (Arc.drop m a))
    (write : ∀ (m : Mem) (b v : Nat), P m → P (writeVal m b v))
    (cloneVal : ∀ (m : Mem) (b : Nat), P m → P (cloneValue m b).1)
    (moveOut : ∀ {m : Mem} {u : HV}, Owned m u.blk → P m → P (UniqueArc.into_inner m u).1)
    (cloneNew : ∀ (m : Mem) (b : Nat) (t : Ty), P m → P (Arc.new (cloneValue m b).1 t (cloneValue m b).2).1) :
    SlotLaw P fun _ _ => True where
  mIncr := fun ho => ⟨incr ho, fun _ _ => trivial⟩
  mDrop := fun ho _ => ⟨drop ho, fun _ _ => trivial⟩
  mWrite := fun m b v => ⟨write m b v, fun _ _ => trivial⟩
  mCloneVal := fun m b => ⟨cloneVal m b, fun _ _ => trivial⟩
  mMoveOut := fun ho _ => ⟨moveOut ho, fun _ _ => trivial⟩
  mCloneNew := fun _ _ => ⟨⟨cloneNew _ _ _, fun _ _ => trivial⟩, trivial⟩
  qClone := fun _ _ => trivial
  qAsArc := fun _ => trivial
  qConv := fun _ _ => trivial
  qIntoThin := fun _ _ _ _ => trivial
  qUniq := fun _ _ => trivial
  qOffBack := fun _ _ _ _ _ => trivial

end M1
