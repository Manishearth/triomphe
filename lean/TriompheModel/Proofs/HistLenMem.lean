import TriompheModel.Proofs.HistLenBase
import TriompheModel.Proofs.HistLemmasLogStep
/-!
# How memory evolves

`Ext wd m m'`: every block of `m` is still there in `m'` with the same shape (slot count, stored length word, requested
layout: `Stable`), and — when the switch `wd` is on — `DL` carries over from `m` to `m'`.  For that it is enough
that the log grew by events whose `dealloc`s record the layout of their block in `m'` (`Ext.of_log`).  Every primitive
memory operation extends memory in this sense (a release, if its view computes the requested layout), and so does
every op that hands values in (`HandIn.ext`).
-/
namespace M1
open LY

def Stable (m m' : Mem) : Prop :=
  ∀ (b : Nat) (k : Block), m.blocks[b]? = some k → ∃ k' : Block, m'.blocks[b]? = some k' ∧ k'.shape = k.shape

/-- every `dealloc` event records the layout its block was requested with -/
def DL (m : Mem) : Prop :=
  ∀ (b sz al : Nat), Event.dealloc b sz al ∈ m.log → ∃ k : Block, m.blocks[b]? = some k ∧ k.lay = ⟨sz, al⟩

structure Ext (wd : Prop) (m m' : Mem) : Prop where
  st : Stable m m'
  dl : wd → DL m → DL m'

def NoDealloc (es : List Event) : Prop := ∀ (b sz al : Nat), Event.dealloc b sz al ∉ es

theorem Quiet.noDealloc {es : List Event} (h : Quiet es) : NoDealloc es := by
  intro b sz al hm
  have := h _ hm; cases this

theorem noDealloc_dropsOf (vs : List Item) : NoDealloc (dropsOf vs) := (quiet_dropsOf vs).noDealloc

theorem noDealloc_hdrDrops (h : Option Item) : NoDealloc (hdrDrops h) := (quiet_hdrDrops h).noDealloc

theorem NoDealloc.append {a b : List Event} (ha : NoDealloc a) (hb : NoDealloc b) : NoDealloc (a ++ b) := by
  intro x sz al hm
  rcases List.mem_append.1 hm with h | h
  · exact ha _ _ _ h
  · exact hb _ _ _ h

theorem noDealloc_alloc (b sz al : Nat) : NoDealloc [Event.alloc b sz al] := by
  intro x s a hm; simp at hm

theorem NoDealloc.mem_snoc {q : List Event} (hq : NoDealloc q) {e : Event} {b sz al : Nat}
    (hm : Event.dealloc b sz al ∈ q ++ [e]) : e = .dealloc b sz al :=
  (List.mem_append.1 hm).elim (fun h => absurd h (hq b sz al)) fun h => (List.mem_singleton.1 h).symm

theorem lay_eta (l : Layout) : (⟨l.size, l.align⟩ : Layout) = l := rfl

theorem upd_get_some {m : Mem} {j : Nat} {k : Block} (hk : m.blocks[j]? = some k) (b : Nat) (f : Block → Block) :
    (m.upd b f).blocks[j]? = some (if b = j then f k else k) := by rw [upd_get, hk]; rfl

namespace Stable

theorem refl (m : Mem) : Stable m m := fun _ k hk => ⟨k, hk, rfl⟩

theorem trans {a b c : Mem} (h1 : Stable a b) (h2 : Stable b c) : Stable a c := by
  intro j k hk
  obtain ⟨k1, hk1, hs1⟩ := h1 j k hk
  obtain ⟨k2, hk2, hs2⟩ := h2 j k1 hk1
  exact ⟨k2, hk2, hs2.trans hs1⟩

theorem upd (m : Mem) (b : Nat) (f : Block → Block) (hf : ∀ k, (f k).shape = k.shape) :
    Stable m (m.upd b f) := by
  intro j k hk
  refine ⟨_, upd_get_some hk b f, ?_⟩
  split
  · exact hf k
  · rfl

theorem append (m : Mem) (k0 : Block) (log : List Event) (nc : Nat) :
    Stable m ⟨m.blocks ++ [k0], log, nc⟩ := by
  intro j k hk
  have hj : j < m.blocks.length := (List.getElem?_eq_some_iff.1 hk).1
  exact ⟨k, by simp only; rw [List.getElem?_append_left hj]; exact hk, rfl⟩

theorem same_blocks {m m' : Mem} (h : m'.blocks = m.blocks) : Stable m m' := by
  intro j k hk; exact ⟨k, by rw [h]; exact hk, rfl⟩

end Stable

namespace Ext
variable {wd : Prop}

theorem refl (m : Mem) : Ext wd m m := ⟨Stable.refl m, fun _ h => h⟩

theorem trans {a b c : Mem} (h1 : Ext wd a b) (h2 : Ext wd b c) : Ext wd a c :=
  ⟨h1.st.trans h2.st, fun w h => h2.dl w (h1.dl w h)⟩

theorem of_log {m m' : Mem} (hst : Stable m m') (es : List Event) (hlog : m'.log = m.log ++ es)
    (hes : wd → ∀ (b sz al : Nat), Event.dealloc b sz al ∈ es →
      ∃ k : Block, m'.blocks[b]? = some k ∧ k.lay = ⟨sz, al⟩) : Ext wd m m' := by
  refine ⟨hst, ?_⟩
  intro hw hdl b sz al hm
  rw [hlog] at hm
  rcases List.mem_append.1 hm with h | h
  · obtain ⟨k, hk, hl⟩ := hdl b sz al h
    obtain ⟨k', hk', hs⟩ := hst b k hk
    exact ⟨k', hk', (congrArg Shape.lay hs).trans hl⟩
  · exact hes hw b sz al h

theorem of_quiet {m m' : Mem} (hst : Stable m m') (es : List Event) (hlog : m'.log = m.log ++ es)
    (hes : NoDealloc es) : Ext wd m m' :=
  of_log hst es hlog (fun _ b sz al hm => absurd hm (hes b sz al))

theorem upd (m : Mem) (b : Nat) (f : Block → Block) (hf : ∀ k, (f k).shape = k.shape) :
    Ext wd m (m.upd b f) :=
  of_quiet (Stable.upd m b f hf) [] (List.append_nil _).symm nofun

theorem emit (m : Mem) {es : List Event} (hes : NoDealloc es) : Ext wd m (m.emit es) :=
  of_quiet (Stable.same_blocks rfl) es rfl hes

theorem alloc (m : Mem) (lay : Layout) (hdr : Option Item) (rl : Option Nat) (el : List (Option Item)) :
    Ext wd m (allocBlock m lay hdr rl el).1 :=
  of_quiet (Stable.append m _ _ _) [Event.alloc m.blocks.length lay.size lay.align] rfl (noDealloc_alloc _ _ _)

theorem incr (m : Mem) (b : Nat) : Ext wd m (incr m b) := upd m b _ (fun _ => rfl)
theorem leak (m : Mem) (b : Nat) : Ext wd m (m.leak b) := upd m b _ (fun _ => rfl)

theorem writeVal (m : Mem) (b v : Nat) : Ext wd m (writeVal m b v) := by
  apply upd
  intro k
  split
  · rfl
  · split
    · rename_i it r hk
      simp only [Block.shape, hk, List.length_cons]
    · rfl

theorem cloneValue (m : Mem) (b : Nat) : Ext wd m (cloneValue m b).1 := by
  obtain ⟨ce, hce, _, hq⟩ := cloneValue_log m b
  exact of_quiet (Stable.same_blocks (cloneValue_blocks m b)) ce hce hq.noDealloc

theorem free {m : Mem} {b : Nat} {k : Block} {f : Block → Block} {es : List Event} {lay : Layout}
    (hk : m.blocks[b]? = some k) (hf : ∀ k, (f k).shape = k.shape) (hes : NoDealloc es) (hlay : wd → lay = k.lay) :
    Ext wd m ((m.upd b f).emit (es ++ [.dealloc b lay.size lay.align])) := by
  refine of_log (Stable.upd m b f hf) _ rfl fun hw b' sz al hm => ?_
  cases hes.mem_snoc hm
  refine ⟨f k, ?_, (congrArg Shape.lay (hf k)).trans (hlay hw).symm⟩
  simp only [Mem.emit, upd_get, hk, Option.map_some, if_true]

theorem decr (m : Mem) (b : Nat) (t : Ty) (len : Nat)
    (hrel : wd → ∀ k : Block, m.blocks[b]? = some k → t.releaseLayout len = k.lay) :
    Ext wd m (decr m b t len) := by
  unfold M1.decr
  split
  · exact refl m
  · rename_i k hk
    split
    · exact free hk (fun _ => rfl) (quiet_payloadDrops b k t len).noDealloc (fun hw => hrel hw k hk)
    · exact upd m b _ (fun _ => rfl)

theorem arc_drop (m : Mem) (a : HV)
    (hrel : wd → ∀ k : Block, m.blocks[a.blk]? = some k → a.ty.releaseLayout (viewLen m a) = k.lay) :
    Ext wd m (Arc.drop m a) := decr m a.blk a.ty (viewLen m a) hrel

theorem into_inner (m : Mem) (u : HV)
    (hrel : wd → ∀ k : Block, m.blocks[u.blk]? = some k → u.ty.releaseLayout (viewLen m u) = k.lay) :
    Ext wd m (UniqueArc.into_inner m u).1 := by
  unfold UniqueArc.into_inner
  split
  · exact refl m
  · rename_i k hk
    exact free (es := []) hk (fun _ => rfl) nofun (fun hw => hrel hw k hk)

/-- the explicit result memories of `Proofs/Ctor.lean`: one block appended -/
theorem append_block (m : Mem) (k0 : Block) (es : List Event) (nc : Nat)
    (hes : wd → ∀ (b sz al : Nat), Event.dealloc b sz al ∈ es → b = m.blocks.length ∧ k0.lay = ⟨sz, al⟩) :
    Ext wd m ⟨m.blocks ++ [k0], m.log ++ es, nc⟩ := by
  refine of_log (Stable.append m k0 _ nc) es rfl ?_
  intro hw b sz al hm
  obtain ⟨rfl, hl⟩ := hes hw b sz al hm
  exact ⟨k0, by simp, hl⟩

end Ext

theorem HandIn.ext {wd : Prop} {s s' : State} {op : Op} (hh : HandIn s op s') : Ext wd s.mem s'.mem := by
  cases hh with
  | create => exact Ext.alloc ..
  | iterBuilt _ hc => cases hc; exact Ext.alloc ..
  | iterPanicked hc =>
    cases hc with
    | noBlock => exact Ext.emit _ (noDealloc_dropsOf _)
    | noAlloc => exact Ext.emit _ ((noDealloc_dropsOf _).append (noDealloc_hdrDrops _))
    | leaked =>
      rw [List.append_assoc]
      exact Ext.append_block _ _ _ _ fun _ b sz al hm =>
        absurd hm ((noDealloc_alloc _ _ _).append (noDealloc_dropsOf _) b sz al)
    | thinMismatch lay n1 hw _ hal =>
      -- the one `dealloc` of an op that hands values in: of the block just built, with `ThinArc`'s release layout
      rw [List.append_assoc]
      refine Ext.append_block _ _ _ _ fun _ b sz al hm => ?_
      cases ((noDealloc_hdrDrops _).append (noDealloc_dropsOf _)).mem_snoc
        ((List.mem_append.1 hm).resolve_left (noDealloc_alloc _ _ _ b sz al))
      subst hw
      exact ⟨rfl, (rel_hwl hal).symm⟩
  | writeSlot => exact Ext.upd _ _ _ fun _ => by simp only [Block.shape, List.length_set]
  | writeRefused => exact Ext.emit _ (Quiet.cons rfl Quiet.nil).noDealloc

end M1
