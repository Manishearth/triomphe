import TriompheModel.Proofs.HistLen
import TriompheModel.Proofs.HistValStep
/-!
# A view that counts as initialised only ever sees written slots (`InitInv`)

`Full m b`: every payload slot of block `b` is written.  Slots only go from `none` to `some`, so every memory primitive
keeps a full block full (`Keeps`).  `InitInv s`: a slot whose handle views its elements as initialised (`vInit`) refers
to a full block.  Every op keeps it because constructors with an initialised view write every slot, `assume_init` is
guarded by `allWritten`, every other handle-to-handle function keeps "initialised", and `make_mut` clones a value that
is there (here `LenInv`: a sized view has ONE slot).  So the laws of `Proofs/SlotLaw.lean` hold of it together with the
typing (`InitQ`, `initLaw` on top of `tyLaw`).
-/
namespace M1
open LY

def Block.full (k : Block) : Prop := ∀ e ∈ k.elems, e.isSome = true

def Full (m : Mem) (b : Nat) : Prop := ∃ k : Block, m.blocks[b]? = some k ∧ k.full

def Keeps (m m' : Mem) : Prop := ∀ b, Full m b → Full m' b

/-- does the handle's view consider the elements initialised?  (a thin handle's view is always the
`HeaderWithLength` one, whatever its `ty` field says) -/
def vInit (h : HV) : Bool := h.kind.isThin || h.ty.elemsInit

namespace Keeps

theorem refl (m : Mem) : Keeps m m := fun _ h => h

theorem trans {a b c : Mem} (h1 : Keeps a b) (h2 : Keeps b c) : Keeps a c := fun b h => h2 b (h1 b h)

theorem upd (m : Mem) (b : Nat) (f : Block → Block) (hf : ∀ k : Block, k.full → (f k).full) : Keeps m (m.upd b f) := by
  intro j ⟨k, hk, hfull⟩
  refine ⟨_, upd_get_some hk b f, ?_⟩
  split
  · exact hf k hfull
  · exact hfull

theorem same_blocks {m m' : Mem} (h : m'.blocks = m.blocks) : Keeps m m' := by
  intro j ⟨k, hk, hfull⟩
  exact ⟨k, by rw [h]; exact hk, hfull⟩

theorem emit (m : Mem) (es : List Event) : Keeps m (m.emit es) := same_blocks rfl

theorem append (m : Mem) (k0 : Block) (log : List Event) (nc : Nat) : Keeps m ⟨m.blocks ++ [k0], log, nc⟩ := by
  intro j ⟨k, hk, hfull⟩
  refine ⟨k, ?_, hfull⟩
  show (m.blocks ++ [k0])[j]? = some k
  rw [List.getElem?_append_left (List.getElem?_eq_some_iff.1 hk).1]; exact hk

theorem alloc (m : Mem) (lay : Layout) (hdr : Option Item) (rl : Option Nat) (el : List (Option Item)) :
    Keeps m (allocBlock m lay hdr rl el).1 := append m _ _ _

theorem incr (m : Mem) (b : Nat) : Keeps m (incr m b) := upd m b _ (fun _ h => h)
theorem leak (m : Mem) (b : Nat) : Keeps m (m.leak b) := upd m b _ (fun _ h => h)

theorem decr (m : Mem) (b : Nat) (t : Ty) (l : Nat) : Keeps m (decr m b t l) := by
  unfold M1.decr
  split
  · exact refl m
  · split
    · exact (upd m b (fun k => { k with count := 0, live := false }) (fun _ h => h)).trans (emit _ _)
    · exact upd m b _ (fun _ h => h)

theorem arc_drop (m : Mem) (a : HV) : Keeps m (Arc.drop m a) := decr _ _ _ _

theorem writeVal (m : Mem) (b v : Nat) : Keeps m (writeVal m b v) := by
  apply upd
  intro k hfull
  split
  · exact hfull
  · split
    · rename_i it r hel
      intro e he
      rcases List.mem_cons.1 he with rfl | he
      · rfl
      · exact hfull e (by rw [hel]; exact List.mem_cons_of_mem _ he)
    · exact hfull

theorem cloneValue (m : Mem) (b : Nat) : Keeps m (cloneValue m b).1 := same_blocks (cloneValue_blocks m b)

theorem into_inner (m : Mem) (u : HV) : Keeps m (UniqueArc.into_inner m u).1 := by
  unfold UniqueArc.into_inner
  split
  · exact refl m
  · exact (upd m u.blk (fun k => { k with count := 0, live := false }) (fun _ h => h)).trans (emit _ _)

theorem closed (m0 : Mem) : MemClosed (Keeps m0) where
  hIncr := fun m b _ hp _ _ => hp.trans (incr m b)
  hDecr := fun m b t l hp _ => hp.trans (decr m b t l)
  hWriteVal := fun m b v hp => hp.trans (writeVal m b v)
  hCloneValue := fun m b hp => hp.trans (cloneValue m b)
  hCloneNew := fun m b _ hp => (hp.trans (cloneValue m b)).trans (alloc _ _ _ _ _)
  hIntoInner := fun m u hp => hp.trans (into_inner m u)

end Keeps

theorem full_new (bs : List Block) (k : Block) (log : List Event) (nc : Nat) (hk : k.full) :
    Full ⟨bs ++ [k], log, nc⟩ bs.length := ⟨k, by simp, hk⟩

theorem full_map_some (vs : List Item) : ∀ e ∈ vs.map some, e.isSome = true := by
  intro e he
  obtain ⟨v, _, rfl⟩ := List.mem_map.1 he
  rfl

theorem full_singleton {x : Option Item} (hx : x.isSome = true) : ∀ e ∈ [x], e.isSome = true :=
  fun _ he => List.mem_singleton.1 he ▸ hx

theorem vInit_of_ty {h : HV} (ht : h.ty.elemsInit = true) : vInit h = true := by simp [vInit, ht]
theorem vInit_of_thin {h : HV} (ht : h.kind.isThin = true) : vInit h = true := by simp [vInit, ht]

theorem cloneHandle_vInit {m m' : Mem} {h c : HV} (hc : cloneHandle m h = some (m', c)) (hv : vInit c = true) :
    vInit h = true := by
  obtain ⟨hkd, hfat, _⟩ := cloneHandle_fields hc
  cases ht : h.kind.isThin with
  | true => exact vInit_of_thin ht
  | false => rwa [vInit, hkd, (hfat ht).1] at hv

theorem asArc_vInit {m : Mem} {h : HV} (hv : vInit (asArc m h) = true) : vInit h = true := by
  cases hk : h.kind <;> simp only [asArc, hk] at hv
  case thin | rawThin => exact vInit_of_thin (by rw [hk]; rfl)
  -- the `Arc` a fat handle stands for has its view type
  all_goals exact vInit_of_ty hv

theorem allWritten_full {m : Mem} {h : HV} (ha : allWritten m h = true) : Full m h.blk := by
  unfold allWritten at ha
  split at ha
  · rename_i k hk
    exact ⟨k, hk, List.all_eq_true.1 ha⟩
  · cases ha

theorem runConv_vInit {m : Mem} {h h' : HV} {c : Conv} (hc : runConv m h c = some h') (hv : vInit h' = true) :
    vInit h = true ∨ allWritten m h = true := by
  cases runConv_graph hc with
  | assumeMu hg | assumeMuSlice hg | assumeHsMu hg => exact .inr hg.2
  | fromThin hg | thinIntoRaw hg | thinFromRaw hg => exact .inl (vInit_of_thin (by rw [hg]; rfl))
  | eraseHeader hg | addHeader hg | toDynArc hg | toDynUniq hg => exact .inl (vInit_of_ty (by rw [hg.2]; rfl))
  -- the others return a fat handle of the same view type
  | _ => exact .inl (vInit_of_ty hv)

theorem Ctor.vInit_handle (c : Ctor) (b : Nat) : vInit (c.handle b) = c.takesValues := by cases c <;> rfl

def InitInv (s : State) : Prop := AllSlots (fun h => vInit h = true → Full s.mem h.blk) s.slots

theorem initinv_init : InitInv State.init := fun _ he => nomatch he

namespace InitInv
variable {s : State} {m' : Mem}

theorem frame (hi : InitInv s) (hk : Keeps s.mem m') : InitInv ⟨m', s.slots⟩ := hi.imp fun _ hf hv => hk _ (hf hv)

theorem put (hi : InitInv s) (hk : Keeps s.mem m') (dst : Nat) {c : HV} (hc : vInit c = true → Full m' c.blk) :
    InitInv (s.put m' dst c) := (hi.frame hk).cons dst hc

end InitInv

def InitQ (m : Mem) (h : HV) : Prop := TyQ False m h ∧ (vInit h = true → Full m h.blk)

theorem InitQ.sized_written {m : Mem} {h : HV} (q : InitQ m h) (hty : h.ty = .sized) :
    ∃ (k : Block) (it : Item), m.blocks[h.blk]? = some k ∧ k.elems = [some it] := by
  obtain ⟨⟨k, hk, ho⟩, hf⟩ := q
  obtain ⟨e, hel⟩ := List.length_eq_one_iff.1 (ho.1.one (by rw [hty]; rfl))
  obtain ⟨k', hk', hf⟩ := hf (vInit_of_ty (by rw [hty]; rfl))
  rw [hk] at hk'; cases hk'
  have := hf e (by rw [hel]; exact List.mem_singleton_self e)
  cases e with
  | none => cases this
  | some it => exact ⟨k, it, hk, hel⟩

theorem InitInv.sized_written {s : State} (hi : InitInv s) (hl : LenInv s) {i : Nat} {h : HV}
    (hs : lookup s i = some h) (hty : h.ty = .sized) :
    ∃ (k : Block) (it : Item), s.mem.blocks[h.blk]? = some k ∧ k.elems = [some it] :=
  InitQ.sized_written ⟨hl.toTy.slot hs, hi.slot hs⟩ hty

theorem Keeps.next {m m' : Mem} (hk : Keeps m m') (hn : Next (fun m => False → DL m) (TyQ False) m m') :
    Next (fun _ => True) InitQ m m' :=
  ⟨id, fun h q => ⟨hn.2 h q.1, fun hv => hk _ (q.2 hv)⟩⟩

theorem initLaw : SlotLaw (fun _ => True) InitQ :=
  have T := tyLaw (wl := False) (wd := False) id
  { mIncr := fun ho => (Keeps.incr _ _).next (T.mIncr ho)
    mDrop := fun ho q => (Keeps.arc_drop _ _).next (T.mDrop ho q.1)
    mWrite := fun m b v => (Keeps.writeVal _ _ _).next (T.mWrite m b v)
    mCloneVal := fun m b => (Keeps.cloneValue _ _).next (T.mCloneVal m b)
    mMoveOut := fun ho q => (Keeps.into_inner _ _).next (T.mMoveOut ho q.1)
    mCloneNew := fun {m h} q hg => by
      -- `make_mut` clones a value that is there: a sized view has one slot (an `OffsetArc`'s view is sized), written
      obtain ⟨_, _, ho⟩ := q.1
      obtain ⟨k, it, hk, hel⟩ := q.sized_written (hg.elim (·.2) ho.1.off)
      refine ⟨((Keeps.cloneValue _ _).trans (Keeps.alloc _ _ _ _ _)).next (T.mCloneNew q.1 hg).1, (T.mCloneNew q.1 hg).2,
        fun _ => full_new _ _ _ _ (full_singleton ?_)⟩
      simp [cloneValue, hk, hel]
    qClone := fun hc q => ⟨T.qClone hc q.1, fun hv => (cloneHandle_spec hc).2.1 ▸ q.2 (cloneHandle_vInit hc hv)⟩
    qAsArc := fun q => ⟨T.qAsArc q.1, fun hv => (asArc_blk ..).symm ▸ q.2 (asArc_vInit hv)⟩
    qConv := fun hc q =>
      ⟨T.qConv hc q.1, fun hv => (runConv_spec hc).1 ▸ (runConv_vInit hc hv).elim q.2 allWritten_full⟩
    qIntoThin := fun hk ht hr q => ⟨T.qIntoThin hk ht hr q.1, fun _ => q.2 (vInit_of_ty (by rw [ht]; rfl))⟩
    qUniq := fun q hk => ⟨T.qUniq q.1 hk, fun hv => q.2 (vInit_of_ty hv)⟩
    qOffBack := fun q hk qf hfk hft => ⟨T.qOffBack q.1 hk qf.1 hfk hft, fun hv => qf.2 (vInit_of_ty hv)⟩ }

namespace InitInv

theorem micro {s s' : State} (hm : Micro s s') (hc : Inv' s) (hl : LenInv s) (hi : InitInv s) : InitInv s' :=
  (initLaw.micro hm hc ⟨trivial, fun e he => ⟨hl.toTy.hok e he, hi e he⟩⟩).2.imp fun _ => And.right

theorem handIn {s s' : State} {op : Op} (hh : HandIn s op s') (hi : InitInv s) : InitInv s' := by
  cases hh with
  | @create _ c _ _ _ =>
    refine hi.put (Keeps.alloc _ _ _ _ _) _ fun hv => Ctor.handle_blk c _ ▸ full_new _ _ _ _ ?_
    rw [Ctor.vInit_handle] at hv
    rw [Ctor.elems, if_pos hv]
    exact full_map_some _
  | iterBuilt _ hc => cases hc; exact hi.put (Keeps.append _ _ _ _) _ fun _ => full_new _ _ _ _ (full_map_some _)
  | iterPanicked hc =>
    cases hc with
    | noBlock | noAlloc => exact hi.frame (Keeps.same_blocks rfl)
    | leaked | thinMismatch => exact hi.frame (Keeps.append _ _ _ _)
  | writeSlot =>
    exact hi.frame (Keeps.upd _ _ _ fun k hf e he => (List.mem_or_eq_of_mem_set he).elim (hf e) fun h => h ▸ rfl)
  | writeRefused => exact hi.frame (Keeps.emit _ _)

end InitInv

theorem initinv_step (s : State) (op : Op) (hinv : Inv s) (hl : LenInv s) (hi : InitInv s) : InitInv (step s op).1 :=
  (step_preserves_inv (X := fun s => LenInv s ∧ InitInv s) (fun hm hc h => ⟨h.1.micro hm hc, h.2.micro hm hc h.1⟩)
    (fun hh h => ⟨h.1.handIn hh, h.2.handIn hh⟩) hinv.toInv' ⟨hl, hi⟩ op).2

theorem initinv_run (ops : List Op) : InitInv (run ops) :=
  (run_preserves_inv (X := fun s => LenInv s ∧ InitInv s) ⟨leninv_init, initinv_init⟩
    (fun hc h op => ⟨leninv_step _ op hc.toInv h.1, initinv_step _ op hc.toInv h.1 h.2⟩) ops).2

/-- `InitInv` unpacked: the slots a handle with an initialised view shows are all written -/
theorem init_view_written (ops : List Op) (i : Nat) (h : HV) (hs : lookup (run ops) i = some h)
    (hv : (asArc (run ops).mem h).ty.elemsInit = true) :
    ∃ k : Block, (run ops).mem.blocks[h.blk]? = some k ∧
      ∀ j, j < viewLen (run ops).mem h → (k.elems[j]?).join.isSome = true := by
  obtain ⟨k, hk, ho⟩ := (leninv_run ops).ok i h (lookup_mem hs)
  rw [asArc_ty ho] at hv
  obtain ⟨k', hk', hf⟩ := (initinv_run ops).slot hs (vInit_of_ty hv)
  rw [hk] at hk'; cases hk'
  refine ⟨k, hk, ?_⟩
  intro j hj
  rw [viewLen_of_ok hk ho] at hj
  rw [List.getElem?_eq_getElem hj]
  exact hf _ (List.getElem_mem hj)

end M1
