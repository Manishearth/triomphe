import TriompheModel.Proofs.MonitorGates
import TriompheModel.Proofs.HistValStep
/-!
# The allocator and destructor events (K2, K3) and the simulation relation

`Rel st s`: the monitor state `st` describes the model state `s`.  `step_grow`: along an op the log grows by a suffix and a
block is abandoned only by the panicking op that allocated it.  The event fold K2 against a disciplined log, the leak
check K3, and `checkObsOnly_sound`: the checks that look at the observation alone (K1, K2, K3, K5) report nothing and
re-establish `Rel`.
-/
namespace M1
namespace Mon
open LY

/-! ## how the log and the `leaked` flags evolve along a step -/

structure Grow (m0 m : Mem) : Prop where
  log : ∃ es, m.log = m0.log ++ es
  len : m0.blocks.length ≤ m.blocks.length
  noleak : ∀ (b : Nat) (k : Block), m.blocks[b]? = some k → k.leaked = true →
    ∃ k0 : Block, m0.blocks[b]? = some k0 ∧ k0.leaked = true

namespace Grow

theorem refl (m : Mem) : Grow m m := ⟨⟨[], by simp⟩, Nat.le_refl _, fun _ k hk hl => ⟨k, hk, hl⟩⟩

theorem upd {m0 m : Mem} (hg : Grow m0 m) (b : Nat) (f : Block → Block) (hf : ∀ k, (f k).leaked = k.leaked) :
    Grow m0 (m.upd b f) := by
  refine ⟨hg.log, by rw [length_upd]; exact hg.len, ?_⟩
  intro j k' hk' hl
  rw [upd_get] at hk'
  obtain ⟨k, hk, rfl⟩ := Option.map_eq_some_iff.1 hk'
  refine hg.noleak j k hk ?_
  split at hl
  · rwa [hf] at hl
  · exact hl

theorem same_blocks {m0 m : Mem} (hg : Grow m0 m) (es : List Event) (nc : Nat) :
    Grow m0 ⟨m.blocks, m.log ++ es, nc⟩ := by
  obtain ⟨es0, h0⟩ := hg.log
  exact ⟨⟨es0 ++ es, by simp [h0]⟩, hg.len, hg.noleak⟩

theorem append_block {m0 m : Mem} (hg : Grow m0 m) (k0 : Block) (hk0 : k0.leaked = false) (es : List Event) (nc : Nat) :
    Grow m0 ⟨m.blocks ++ [k0], m.log ++ es, nc⟩ := by
  obtain ⟨es0, h0⟩ := hg.log
  refine ⟨⟨es0 ++ es, by simp [h0]⟩, by simp only [List.length_append, List.length_singleton]; have := hg.len; omega, ?_⟩
  intro j k hk hl
  rcases append_get _ _ _ _ hk with h | h
  · exact hg.noleak j k h hl
  · rw [h.2, hk0] at hl; cases hl

theorem emit {m0 m : Mem} (hg : Grow m0 m) (es : List Event) : Grow m0 (m.emit es) := hg.same_blocks es _

theorem alloc {m0 m : Mem} (hg : Grow m0 m) (lay : Layout) (hdr : Option Item) (rl : Option Nat)
    (el : List (Option Item)) : Grow m0 (allocBlock m lay hdr rl el).1 := hg.append_block _ rfl _ _

theorem incr {m0 m : Mem} (hg : Grow m0 m) (b : Nat) : Grow m0 (incr m b) := hg.upd b _ (fun _ => rfl)

theorem decr {m0 m : Mem} (hg : Grow m0 m) (b : Nat) (t : Ty) (l : Nat) : Grow m0 (decr m b t l) := by
  unfold M1.decr
  split
  · exact hg
  · split
    · exact (hg.upd b (fun k => { k with count := 0, live := false }) (fun _ => rfl)).emit _
    · exact hg.upd b _ (fun _ => rfl)

theorem writeVal {m0 m : Mem} (hg : Grow m0 m) (b v : Nat) : Grow m0 (writeVal m b v) := by
  apply hg.upd
  intro k
  split
  · rfl
  · split <;> rfl

theorem cloneValue {m0 m : Mem} (hg : Grow m0 m) (b : Nat) : Grow m0 (cloneValue m b).1 := by
  unfold M1.cloneValue
  split
  · exact hg.same_blocks _ _
  · exact hg

theorem into_inner {m0 m : Mem} (hg : Grow m0 m) (u : HV) : Grow m0 (UniqueArc.into_inner m u).1 := by
  unfold UniqueArc.into_inner
  split
  · exact hg
  · exact (hg.upd u.blk (fun k => { k with count := 0, live := false }) (fun _ => rfl)).emit _

theorem closed (m0 : Mem) : MemClosed (Grow m0) where
  hIncr := fun _ b _ hp _ _ => hp.incr b
  hDecr := fun _ b t l hp _ => hp.decr b t l
  hWriteVal := fun _ b v hp => hp.writeVal b v
  hCloneValue := fun _ b hp => hp.cloneValue b
  hCloneNew := fun _ b _ hp => (hp.cloneValue b).alloc ..
  hIntoInner := fun _ u hp => hp.into_inner u

end Grow

structure StepGrow (s : State) (op : Op) : Prop where
  log : ∃ es, (step s op).1.mem.log = s.mem.log ++ es
  len : s.mem.blocks.length ≤ (step s op).1.mem.blocks.length
  leak : ∀ (b : Nat) (k : Block), (step s op).1.mem.blocks[b]? = some k → k.leaked = true →
    (∃ k0 : Block, s.mem.blocks[b]? = some k0 ∧ k0.leaked = true) ∨
    (s.mem.blocks.length ≤ b ∧ isPanicStatus (step s op).2.status = true)

theorem StepGrow.of_grow {s : State} {op : Op} {r : State × Out} (e : step s op = r) (h : Grow s.mem r.1.mem) :
    StepGrow s op := by
  subst e
  exact ⟨h.log, h.len, fun b k hk hl => Or.inl (h.noleak b k hk hl)⟩

theorem step_grow {s : State} (hi : Inv' s) (op : Op) : StepGrow s op := by
  cases hp : op.plain with
  | true => exact .of_grow rfl (closed_step (Grow.closed s.mem) hi (Grow.refl _) op hp)
  | false =>
    obtain ⟨r, e, hr⟩ := step_cases s op
    have G := Grow.refl s.mem
    cases hr with
    | bad | createOverflow => exact .of_grow e G
    | create => exact .of_grow e (G.alloc ..)
    | writeSlot => exact .of_grow e (G.upd _ _ (fun _ => rfl))
    | writeSlotRefused =>
      refine .of_grow e ?_
      show Grow s.mem (if _ then _ else _)
      split
      · exact G.emit _
      · exact G
    | iterBuilt _ hs =>
      cases hs with
      | built => exact .of_grow e (G.append_block _ rfl _ _)
    | iterPanicked _ hs =>
      cases hs with
      | noBlock | noAlloc => exact .of_grow e (G.same_blocks _ _)
      | thinMismatch => exact .of_grow e ((G.append_block _ rfl _ s.mem.nextClone).same_blocks _ _)
      | leaked =>
        -- the one case in which a block is abandoned: it is new, and the status is a panic
        refine ⟨?_, ?_, ?_⟩
        · rw [e]; exact ⟨_, List.append_assoc _ _ _⟩
        · rw [e]; simp
        · intro b k' hk' hl
          rw [e] at hk' ⊢
          simp only at hk'
          rcases append_get _ _ _ _ hk' with h1 | h1
          · exact Or.inl ⟨k', h1, hl⟩
          · exact Or.inr ⟨by omega, isPanic_panicked _ _⟩
    | _ => cases hp

/-! ## K2: the event fold against a disciplined log -/

/-- what the monitor knows after the events `pre` of the whole log -/
structure Track (pre : List Event) (st : MSt) : Prop where
  live : ∀ b sz al, (b, sz, al) ∈ st.live ↔
    (Event.alloc b sz al ∈ pre ∧ ∀ sz' al', Event.dealloc b sz' al' ∉ pre)
  dropped : ∀ id, id ∈ st.dropped ↔ Event.drop id ∈ pre

/-- the discipline of a complete log `L` (and of the probe `o.slots` taken at its end) that K2 checks -/
structure LogOk (o : Obs) (L : List Event) : Prop where
  allocFresh : ∀ pre rest b sz al, L = pre ++ Event.alloc b sz al :: rest →
    ∀ sz' al', Event.dealloc b sz' al' ∉ pre
  deallocLive : ∀ pre rest b sz al, L = pre ++ Event.dealloc b sz al :: rest →
    (∃ sz' al', Event.alloc b sz' al' ∈ pre) ∧ (∀ sz' al', Event.dealloc b sz' al' ∉ pre)
  layout : ∀ b sz al sz' al', Event.alloc b sz al ∈ L → Event.dealloc b sz' al' ∈ L → sz' = sz ∧ al' = al
  unowned : ∀ b sz al, Event.dealloc b sz al ∈ L → ownersO o.slots b = 0
  dropOnce : ∀ pre rest id, L = pre ++ Event.drop id :: rest → Event.drop id ∉ pre

theorem mem_snoc {x e : Event} {pre : List Event} : x ∈ pre ++ [e] ↔ x ∈ pre ∨ x = e := by simp

theorem mem_snoc_of_ne {x e : Event} {pre : List Event} (h : x ≠ e) : x ∈ pre ++ [e] ↔ x ∈ pre :=
  mem_snoc.trans (or_iff_left h)

namespace Track
variable {pre : List Event} {e : Event} {st : MSt}

theorem live_snoc (ht : Track pre st) (h1 : ∀ b sz al, Event.alloc b sz al ≠ e)
    (h2 : ∀ b sz al, Event.dealloc b sz al ≠ e) (b sz al : Nat) :
    (b, sz, al) ∈ st.live ↔ (Event.alloc b sz al ∈ pre ++ [e] ∧ ∀ sz' al', Event.dealloc b sz' al' ∉ pre ++ [e]) := by
  simp only [ht.live, mem_snoc_of_ne (h1 _ _ _), mem_snoc_of_ne (h2 _ _ _)]

theorem dropped_snoc (ht : Track pre st) (h : ∀ id, Event.drop id ≠ e) (id : Nat) :
    id ∈ st.dropped ↔ Event.drop id ∈ pre ++ [e] := by
  rw [ht.dropped, mem_snoc_of_ne (h id)]

end Track

theorem k2Step_sound {o : Obs} {L : List Event} (hL : LogOk o L) {pre rest : List Event} {e : Event} {st : MSt}
    (hsplit : L = pre ++ e :: rest) (ht : Track pre st) :
    (k2Step o st e).2 = [] ∧ Track (pre ++ [e]) (k2Step o st e).1 := by
  cases e with
  | alloc b sz al =>
    refine ⟨rfl, ?_, ht.dropped_snoc (fun _ h => by cases h)⟩
    intro b' sz' al'
    simp only [k2Step, List.mem_cons, ht.live, mem_snoc, reduceCtorEq, or_false]
    constructor
    · rintro (h | ⟨h1, h2⟩)
      · cases h
        exact ⟨Or.inr rfl, hL.allocFresh pre rest _ _ _ hsplit⟩
      · exact ⟨Or.inl h1, h2⟩
    · rintro ⟨h1 | h1, h2⟩
      · exact Or.inr ⟨h1, h2⟩
      · cases h1; exact Or.inl rfl
  | dealloc b sz al =>
    obtain ⟨⟨sz0, al0, ha0⟩, hnd⟩ := hL.deallocLive pre rest b sz al hsplit
    have hlive0 : (b, sz0, al0) ∈ st.live := (ht.live b sz0 al0).2 ⟨ha0, hnd⟩
    have hdL : Event.dealloc b sz al ∈ L := by rw [hsplit]; exact List.mem_append_right _ List.mem_cons_self
    refine ⟨?_, ?_, ht.dropped_snoc (fun _ h => by cases h)⟩
    · simp only [k2Step, hL.unowned b sz al hdL]
      -- the block is live, so `find?` finds its entry, which records the layout of its one `alloc` event
      cases hf : st.live.find? (fun e => e.1 == b) with
      | none => exact absurd (beq_self_eq_true b) (List.find?_eq_none.1 hf _ hlive0)
      | some e =>
        have hb := List.find?_some hf
        obtain ⟨b1, s1, a1⟩ := e
        obtain rfl : b1 = b := beq_iff_eq.1 hb
        have ha1 := ((ht.live _ _ _).1 (List.mem_of_find?_eq_some hf)).1
        obtain ⟨rfl, rfl⟩ := hL.layout _ _ _ _ _ (hsplit ▸ List.mem_append_left _ ha1) hdL
        simp only [beq_self_eq_true, Bool.and_self, if_true, List.append_nil]
    · intro b' sz' al'
      simp only [k2Step, List.mem_filter, ht.live, mem_snoc, not_or, Event.dealloc.injEq, not_and, bne_iff_ne, ne_eq,
        reduceCtorEq, or_false]
      constructor
      · rintro ⟨⟨h1, h2⟩, h3⟩
        exact ⟨h1, fun s a => ⟨h2 s a, fun hb => absurd hb h3⟩⟩
      · rintro ⟨h1, h2⟩
        exact ⟨⟨h1, fun s a => (h2 s a).1⟩, fun hb => (h2 sz al).2 hb rfl rfl⟩
  | drop id =>
    have hnot : id ∉ st.dropped := fun h => hL.dropOnce pre rest id hsplit ((ht.dropped id).1 h)
    refine ⟨?_, ht.live_snoc (fun _ _ _ h => by cases h) (fun _ _ _ h => by cases h), ?_⟩
    · simp only [k2Step, List.contains_iff_mem, hnot, if_false]
    · intro id'
      simp only [k2Step, List.mem_cons, ht.dropped, mem_snoc, Event.drop.injEq]
      exact Or.comm
  | clone | dropUninit =>
    exact ⟨rfl, ht.live_snoc (fun _ _ _ h => by cases h) (fun _ _ _ h => by cases h),
      ht.dropped_snoc (fun _ h => by cases h)⟩

theorem k2_sound {o : Obs} {L : List Event} (hL : LogOk o L) :
    ∀ (evs pre : List Event) (st : MSt), L = pre ++ evs → Track pre st →
      (k2 o st evs).2 = [] ∧ Track L (k2 o st evs).1 := by
  intro evs
  induction evs with
  | nil => intro pre st hsplit ht; simp only [List.append_nil] at hsplit; subst hsplit; exact ⟨rfl, ht⟩
  | cons e r ih =>
    intro pre st hsplit ht
    obtain ⟨h1, h2⟩ := k2Step_sound hL hsplit ht
    obtain ⟨h3, h4⟩ := ih (pre ++ [e]) (k2Step o st e).1 (by rw [hsplit]; simp) h2
    refine ⟨?_, h4⟩
    simp only [k2, h1, h3, List.append_nil]

theorem k2_keeps {o : Obs} {P : MSt → Prop} (hP : ∀ st e, P st → P (k2Step o st e).1) :
    ∀ (evs : List Event) (st : MSt), P st → P (k2 o st evs).1
  | [], _, h => h
  | e :: r, st, h => k2_keeps hP r _ (hP st e h)

theorem k2_leakOk_mono (o : Obs) (evs : List Event) (st : MSt) (b : Nat) (h : b ∈ st.leakOk) :
    b ∈ (k2 o st evs).1.leakOk := by
  refine k2_keeps (P := fun st => b ∈ st.leakOk) (fun st e h => ?_) evs st h
  cases e <;> simp only [k2Step] <;> try exact h
  split
  · exact List.mem_cons_of_mem _ h
  · exact h

theorem k2_leakOk_new (o : Obs) (hp : o.panicked = true) : ∀ (evs : List Event) (st : MSt) (b sz al : Nat),
    Event.alloc b sz al ∈ evs → b ∈ (k2 o st evs).1.leakOk := by
  intro evs
  induction evs with
  | nil => intro st b sz al h; cases h
  | cons e r ih =>
    intro st b sz al h
    rcases List.mem_cons.1 h with rfl | h
    · exact k2_leakOk_mono o r _ b (by simp [k2Step, hp])
    · exact ih _ b sz al h

theorem k2_pre (o : Obs) : ∀ (evs : List Event) (st : MSt), (k2 o st evs).1.pre = st.pre :=
  fun evs st => k2_keeps (P := fun st' => st'.pre = st.pre) (fun _ e h => by cases e <;> exact h) evs st rfl

/-! ## the log of a reachable state is disciplined; so is the log with the events of the last op permuted -/

/-- facts about a log that do not depend on the order of its events -/
structure LogFacts (o : Obs) (L : List Event) : Prop where
  allocOnce : ∀ b, L.countP (isAlloc b) ≤ 1
  deallocOnce : ∀ b, L.countP (isDealloc b) ≤ 1
  allocated : ∀ b sz al, Event.dealloc b sz al ∈ L → ∃ sz' al', Event.alloc b sz' al' ∈ L
  layout : ∀ b sz al sz' al', Event.alloc b sz al ∈ L → Event.dealloc b sz' al' ∈ L → sz' = sz ∧ al' = al
  unowned : ∀ b sz al, Event.dealloc b sz al ∈ L → ownersO o.slots b = 0
  drops : (dropIds L).Nodup

def Ordered (L : List Event) : Prop :=
  ∀ pre rest b sz al, L = pre ++ Event.dealloc b sz al :: rest → ∃ sz' al', Event.alloc b sz' al' ∈ pre

theorem not_twice {p : Event → Bool} {L pre rest : List Event} {x y : Event} (h1 : L.countP p ≤ 1)
    (hL : L = pre ++ y :: rest) (hx : x ∈ pre) (hpx : p x = true) (hpy : p y = true) : False := by
  rw [hL, List.countP_append, List.countP_cons, if_pos hpy] at h1
  have : 0 < pre.countP p := List.countP_pos_iff.2 ⟨x, hx, hpx⟩
  omega

theorem logOk_of_facts {o : Obs} {L : List Event} (hf : LogFacts o L) (ho : Ordered L) : LogOk o L where
  allocFresh := by
    -- a `dealloc` of `b` before this `alloc` would have an `alloc` of `b` before it: two of them
    intro pre rest b sz al hsplit sz' al' hm
    obtain ⟨p1, p2, rfl⟩ := List.append_of_mem hm
    obtain ⟨s0, a0, h0⟩ := ho p1 (p2 ++ Event.alloc b sz al :: rest) b sz' al' (by rw [hsplit]; simp)
    exact not_twice (hf.allocOnce b) hsplit (List.mem_append_left _ h0) (by simp [isAlloc]) (by simp [isAlloc])
  deallocLive := fun pre rest b sz al hsplit =>
    ⟨ho pre rest b sz al hsplit, fun sz' al' hm =>
      not_twice (hf.deallocOnce b) hsplit hm (by simp [isDealloc]) (by simp [isDealloc])⟩
  layout := hf.layout
  unowned := hf.unowned
  dropOnce := by
    intro pre rest id hsplit hm
    have hnd := hf.drops
    rw [hsplit, dropIds_append] at hnd
    exact (List.nodup_append.1 hnd).2.2 id (mem_dropIds.2 hm) id (mem_dropIds.2 List.mem_cons_self) rfl

theorem LogFacts.perm {o : Obs} {L L' : List Event} (hp : L.Perm L') (hf : LogFacts o L) : LogFacts o L' where
  allocOnce := fun b => by rw [← hp.countP_eq]; exact hf.allocOnce b
  deallocOnce := fun b => by rw [← hp.countP_eq]; exact hf.deallocOnce b
  allocated := fun b sz al h => by
    obtain ⟨s, a, h'⟩ := hf.allocated b sz al (hp.mem_iff.2 h)
    exact ⟨s, a, hp.mem_iff.1 h'⟩
  layout := fun b sz al sz' al' h1 h2 => hf.layout b sz al sz' al' (hp.mem_iff.2 h1) (hp.mem_iff.2 h2)
  unowned := fun b sz al h => hf.unowned b sz al (hp.mem_iff.2 h)
  drops := ((hp.filterMap Event.dropId?).nodup_iff).1 hf.drops

theorem getElem?_of_mem_left {x : Event} {pre rest : List Event} (h : x ∈ pre) :
    ∃ i, i < pre.length ∧ (pre ++ rest)[i]? = some x := by
  obtain ⟨i, hi⟩ := List.mem_iff_getElem?.1 h
  have hlt : i < pre.length := (List.getElem?_eq_some_iff.1 hi).1
  exact ⟨i, hlt, by rw [List.getElem?_append_left hlt]; exact hi⟩

theorem ordered_of_loginv {m : Mem} (hl : LogInv m) : Ordered m.log := by
  intro pre rest b sz al hsplit
  have hmid : m.log[pre.length]? = some (Event.dealloc b sz al) := by
    rw [hsplit, List.getElem?_append_right (Nat.le_refl _), Nat.sub_self, List.getElem?_cons_zero]
  obtain ⟨j, hj, sz', al', hget⟩ := hl.ord _ b sz al hmid
  rw [hsplit, List.getElem?_append_left hj] at hget
  exact ⟨sz', al', List.mem_of_getElem? hget⟩

theorem facts_of_state {s : State} (hi : Inv s) (hl : LogInv s.mem) (hdl : DL s.mem)
    (hnd : (dropIds s.mem.log).Nodup) (o : Obs) (ho : o.slots = observeSlots s) : LogFacts o s.mem.log where
  allocOnce := fun b => by have := hl.na b; split at this <;> omega
  deallocOnce := fun b => dealloc_le_one hl b
  allocated := by
    intro b sz al hd
    obtain ⟨i, hi⟩ := List.mem_iff_getElem?.1 hd
    obtain ⟨j, _, sz', al', hj⟩ := hl.ord i b sz al hi
    exact ⟨sz', al', List.mem_of_getElem? hj⟩
  layout := by
    intro b sz al sz' al' ha hd
    obtain ⟨k, hk, hlay⟩ := hl.lay b sz al ha
    obtain ⟨k', hk', hlay'⟩ := hdl b sz' al' hd
    rw [hk] at hk'; cases hk'
    rw [hlay] at hlay'
    simp only [Layout.mk.injEq] at hlay'
    exact ⟨hlay'.1.symm, hlay'.2.symm⟩
  unowned := by
    intro b sz al hd
    have hb := dealloc_inb hl hd
    obtain ⟨k, hk⟩ : ∃ k, s.mem.blocks[b]? = some k := ⟨_, List.getElem?_eq_getElem hb⟩
    have hdead := (dealloc_iff_dead hl hk).1 ⟨sz, al, hd⟩
    rw [ho, ownersO_observe]
    exact hi.dead b k hk hdead
  drops := hnd

theorem split_append {α : Type} {L M pre rest : List α} {x : α} (h : L ++ M = pre ++ x :: rest) :
    (∃ c, L = pre ++ x :: c) ∨ ∃ a, pre = L ++ a ∧ M = a ++ x :: rest := by
  rcases List.append_eq_append_iff.1 h with ⟨a, hp, hM⟩ | ⟨c, hL, hc⟩
  · exact .inr ⟨a, hp, hM⟩
  · cases c with
    | nil => exact .inr ⟨[], by rw [hL, List.append_nil, List.append_nil], hc.symm⟩
    | cons y c => cases hc; exact .inl ⟨c, hL⟩

theorem canonEvs_perm (evs : List Event) : (canonEvs evs).Perm evs := List.filter_append_perm _ _

theorem ordered_canon {o : Obs} {log evs : List Event} (hord : Ordered log)
    (hf : LogFacts o (log ++ canonEvs evs)) : Ordered (log ++ canonEvs evs) := by
  intro pre rest b sz al hsplit
  rcases split_append hsplit with ⟨c, hlog⟩ | ⟨a, rfl, hc⟩
  · exact hord pre c b sz al hlog
  · -- a `dealloc` of the op stands behind the allocations of the op, and the `alloc` of its block is one of them or in `log`
    obtain ⟨s0, a0, hm⟩ := hf.allocated b sz al (by rw [hsplit]; simp)
    refine ⟨s0, a0, ?_⟩
    rcases split_append hc with ⟨c, hA⟩ | ⟨q, rfl, _⟩
    · have : Event.dealloc b sz al ∈ evs.filter isAllocEv := by rw [hA]; simp
      simp [isAllocEv] at this
    · rcases List.mem_append.1 hm with hm | hm
      · exact List.mem_append_left _ hm
      · rcases List.mem_append.1 hm with hm | hm
        · exact List.mem_append_right _ (List.mem_append_left _ hm)
        · simp [isAllocEv] at hm

theorem Track.congr {L L' : List Event} {st : MSt} (ht : Track L st) (h : ∀ x, x ∈ L ↔ x ∈ L') : Track L' st where
  live := fun b sz al => by
    rw [ht.live, h]
    constructor
    · rintro ⟨h1, h2⟩; exact ⟨h1, fun s a hm => h2 s a ((h _).2 hm)⟩
    · rintro ⟨h1, h2⟩; exact ⟨h1, fun s a hm => h2 s a ((h _).1 hm)⟩
  dropped := fun id => by rw [ht.dropped, h]

/-! ## the simulation relation, and the op-independent checks K1 K2 K3 K5 -/

structure Rel (st : MSt) (s : State) : Prop where
  pre : st.pre = observeSlots s
  track : Track s.mem.log st
  leak : ∀ (b : Nat) (k : Block), s.mem.blocks[b]? = some k → k.leaked = true → b ∈ st.leakOk

theorem rel_init : Rel MSt.init State.init where
  pre := rfl
  track := ⟨fun b sz al => by simp [MSt.init, State.init], fun id => by simp [MSt.init, State.init]⟩
  leak := fun b k hk => by simp [State.init] at hk

/-- K5 does not look at the events (stated so that nobody need unfold `observe` to see it) -/
theorem checkK5_withEvs (o : Obs) (evs' : List Event) : checkK5 (o.withEvs evs') = checkK5 o := rfl

/-- `o` observes the state `s'` reached from `s` by logging `es`, and may list these events in ANY order (`hperm`);
`hnew`: what `StepGrow` says about abandoned blocks -/
theorem checkObsOnly_sound {s s' : State} {st : MSt} {o : Obs} {es : List Event} (hr : Rel st s) (hl : LogInv s.mem)
    (hes : s'.mem.log = s.mem.log ++ es)
    (hnew : ∀ (b : Nat) (k : Block), s'.mem.blocks[b]? = some k → k.leaked = true →
      (∃ k0 : Block, s.mem.blocks[b]? = some k0 ∧ k0.leaked = true) ∨ (s.mem.blocks.length ≤ b ∧ o.panicked = true))
    (hi' : Inv s') (hl' : LogInv s'.mem) (hdl' : DL s'.mem) (hnd' : (dropIds s'.mem.log).Nodup)
    (hslots : o.slots = observeSlots s') (hperm : o.evs.Perm es) (hk5 : checkK5 o = []) :
    (k2 o st (canonEvs o.evs)).2 = [] ∧ checkK3 o (k2 o st (canonEvs o.evs)).1 = [] ∧
    (checkObsOnly st o).2 = [] ∧ Rel (checkObsOnly st o).1 s' := by
  have hpermC := (canonEvs_perm o.evs).trans hperm
  have hpermL : (s.mem.log ++ es).Perm (s.mem.log ++ canonEvs o.evs) := List.Perm.append_left _ hpermC.symm
  have hfacts : LogFacts o (s.mem.log ++ canonEvs o.evs) :=
    (hes ▸ facts_of_state hi' hl' hdl' hnd' o hslots).perm hpermL
  obtain ⟨hk2, htrack0⟩ := k2_sound (logOk_of_facts hfacts (ordered_canon (ordered_of_loginv hl) hfacts))
    (canonEvs o.evs) s.mem.log st rfl hr.track
  have htrack : Track s'.mem.log (k2 o st (canonEvs o.evs)).1 :=
    htrack0.congr fun x => by rw [hes]; exact hpermL.mem_iff.symm
  -- every abandoned block is a documented leak: it was one, or its `alloc` event is among those of this panicking op
  have hleak : ∀ (b : Nat) (k : Block), s'.mem.blocks[b]? = some k → k.leaked = true →
      b ∈ (k2 o st (canonEvs o.evs)).1.leakOk := by
    intro b k hk hlk
    rcases hnew b k hk hlk with ⟨k0, hk0, hlk0⟩ | ⟨hge, hpan⟩
    · exact k2_leakOk_mono _ _ _ _ (hr.leak b k0 hk0 hlk0)
    · obtain ⟨j, _, sz, al, hj⟩ := hl'.alloc_exists (List.getElem?_eq_some_iff.1 hk).1
      rcases List.mem_append.1 (hes ▸ List.mem_of_getElem? hj) with hm | hm
      · obtain ⟨k1, hk1, _⟩ := hl.lay b sz al hm
        exact absurd (List.getElem?_eq_some_iff.1 hk1).1 (Nat.not_lt.2 hge)
      · exact k2_leakOk_new o hpan _ _ b sz al (hpermC.mem_iff.2 hm)
  -- K3: a block the monitor holds live is live in the model, so it has an owner unless it was abandoned
  have hk3 : checkK3 o (k2 o st (canonEvs o.evs)).1 = [] := by
    rw [checkK3, List.map_eq_nil_iff, List.filter_eq_nil_iff]
    rintro ⟨b, sz, al⟩ he
    obtain ⟨ha, hnd⟩ := (htrack.live b sz al).1 he
    obtain ⟨k, hk, _⟩ := hl'.lay b sz al ha
    have hlive : k.live = true := Bool.of_not_eq_false fun hlv =>
      let ⟨sz', al', hd⟩ := (dealloc_iff_dead hl' hk).2 hlv
      hnd sz' al' hd
    simp only [k3Bad, hslots, ownersO_observe, Bool.and_eq_true, beq_iff_eq, Bool.not_eq_eq_eq_not, Bool.not_true,
      not_and, Bool.not_eq_false]
    intro hown
    cases hlk : k.leaked with
    | true => simpa using hleak b k hk hlk
    | false => have := hi'.cnt b k hk hlive hlk; omega
  refine ⟨hk2, hk3, ?_, hslots, ⟨htrack.live, htrack.dropped⟩, fun b k hk hlk => ?_⟩
  · simp only [checkObsOnly, K1_state hi' o hslots, hk2, hk3, hk5, List.append_nil]
  · exact List.mem_append_right _ (hleak b k hk hlk)

end Mon
end M1
