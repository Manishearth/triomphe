import TriompheModel.Proofs.HistLemmas
/-!
# The discipline of the allocation log

`LogInv m` relates the `alloc` / `dealloc` events recorded in `m.log` to the blocks of `m`: every block has exactly one
`alloc` event (with the layout stored in the block), a `dealloc` event iff it is not live (and then exactly one), and the
`alloc` event comes first.  `LogInv.change` checks the six fields once, for a memory that differs in one block; `log`,
`upd`, `free`, `append_block` and with them the memory operations of the model are instances of it.
-/
namespace M1

def isAlloc (b : Nat) : Event → Bool
  | .alloc b' _ _ => b' == b
  | _ => false

def isDealloc (b : Nat) : Event → Bool
  | .dealloc b' _ _ => b' == b
  | _ => false

def Event.quiet : Event → Bool
  | .alloc .. | .dealloc .. => false
  | _ => true

def Quiet (es : List Event) : Prop := ∀ e ∈ es, e.quiet = true

theorem Quiet.nil : Quiet [] := nofun

theorem Quiet.append {a b : List Event} (ha : Quiet a) (hb : Quiet b) : Quiet (a ++ b) :=
  List.forall_mem_append.2 ⟨ha, hb⟩

theorem Quiet.cons {e : Event} {l : List Event} (he : e.quiet = true) (hl : Quiet l) : Quiet (e :: l) :=
  List.forall_mem_cons.2 ⟨he, hl⟩

theorem Quiet.map_drop {α : Type} (l : List α) (f : α → Nat) : Quiet (l.map fun v => Event.drop (f v)) :=
  List.forall_mem_map.2 fun _ _ => rfl

theorem Quiet.countAlloc {es : List Event} (h : Quiet es) (b : Nat) : es.countP (isAlloc b) = 0 :=
  List.countP_eq_zero.2 fun e he hp => by
    cases e with
    | alloc => exact nomatch h _ he
    | _ => cases hp

theorem Quiet.countDealloc {es : List Event} (h : Quiet es) (b : Nat) : es.countP (isDealloc b) = 0 :=
  List.countP_eq_zero.2 fun e he hp => by
    cases e with
    | dealloc => exact nomatch h _ he
    | _ => cases hp

theorem exists_alloc {b : Nat} {l : List Event} (h : 0 < l.countP (isAlloc b)) : ∃ sz al, Event.alloc b sz al ∈ l := by
  obtain ⟨e, he, hp⟩ := List.countP_pos_iff.1 h
  cases e with
  | alloc b' sz al => exact ⟨sz, al, beq_iff_eq.1 hp ▸ he⟩
  | _ => cases hp

theorem exists_dealloc {b : Nat} {l : List Event} (h : 0 < l.countP (isDealloc b)) :
    ∃ sz al, Event.dealloc b sz al ∈ l := by
  obtain ⟨e, he, hp⟩ := List.countP_pos_iff.1 h
  cases e with
  | dealloc b' sz al => exact ⟨sz, al, beq_iff_eq.1 hp ▸ he⟩
  | _ => cases hp

theorem ord_append {l es : List Event}
    (hl : ∀ (i b sz al : Nat), l[i]? = some (Event.dealloc b sz al) →
      ∃ j : Nat, j < i ∧ ∃ sz' al' : Nat, l[j]? = some (Event.alloc b sz' al'))
    (hes : ∀ b, 0 < es.countP (isDealloc b) → 0 < l.countP (isAlloc b))
    (i b sz al : Nat) (h : (l ++ es)[i]? = some (Event.dealloc b sz al)) :
    ∃ j : Nat, j < i ∧ ∃ sz' al' : Nat, (l ++ es)[j]? = some (Event.alloc b sz' al') := by
  rcases Nat.lt_or_ge i l.length with hlt | hge
  · rw [List.getElem?_append_left hlt] at h
    obtain ⟨j, hj, sz', al', h'⟩ := hl i b sz al h
    exact ⟨j, hj, sz', al', (List.getElem?_append_left (Nat.lt_trans hj hlt)).trans h'⟩
  · rw [List.getElem?_append_right hge] at h
    obtain ⟨sz', al', h'⟩ :=
      exists_alloc (hes b (List.countP_pos_iff.2 ⟨_, List.mem_of_getElem? h, beq_self_eq_true b⟩))
    obtain ⟨j, hj⟩ := List.mem_iff_getElem?.1 h'
    have hjl := (List.getElem?_eq_some_iff.1 hj).1
    exact ⟨j, Nat.lt_of_lt_of_le hjl hge, sz', al', (List.getElem?_append_left hjl).trans hj⟩

theorem quiet_payloadDrops (b : Nat) (k : Block) (t : Ty) (len : Nat) : Quiet (payloadDrops b k t len) := by
  unfold payloadDrops
  apply Quiet.append
  · split
    · exact Quiet.cons rfl Quiet.nil
    · exact Quiet.nil
  · split
    · exact List.forall_mem_map.2 fun ⟨e, _⟩ _ => by cases e <;> rfl
    · exact Quiet.nil

theorem upd_get (m : Mem) (b : Nat) (f : Block → Block) (j : Nat) :
    (m.upd b f).blocks[j]? = (m.blocks[j]?).map (fun k => if b = j then f k else k) := by
  simp [Mem.upd, List.getElem?_modify]

structure LogInv (m : Mem) : Prop where
  /-- a freed block has count word 0 (so a stray `drop_inner` on it would not free it again) -/
  dz : ∀ (b : Nat) (k : Block), m.blocks[b]? = some k → k.live = false → k.count = 0
  nd : ∀ (b : Nat) (k : Block), m.blocks[b]? = some k →
        m.log.countP (isDealloc b) = if k.live then 0 else 1
  ndo : ∀ (b : Nat), m.blocks.length ≤ b → m.log.countP (isDealloc b) = 0
  na : ∀ (b : Nat), m.log.countP (isAlloc b) = if b < m.blocks.length then 1 else 0
  lay : ∀ (b sz al : Nat), Event.alloc b sz al ∈ m.log → ∃ k : Block, m.blocks[b]? = some k ∧ k.lay = ⟨sz, al⟩
  ord : ∀ (i b sz al : Nat), m.log[i]? = some (Event.dealloc b sz al) →
        ∃ j : Nat, j < i ∧ ∃ sz' al' : Nat, m.log[j]? = some (Event.alloc b sz' al')

namespace LogInv

theorem init : LogInv ⟨[], [], n⟩ where
  dz := fun b k h => by simp at h
  nd := fun b k h => by simp at h
  ndo := fun b _ => rfl
  na := fun b => by simp
  lay := fun b sz al h => by cases h
  ord := fun i b sz al h => by simp at h

theorem alloc_exists {m : Mem} (hi : LogInv m) {b : Nat} (hb : b < m.blocks.length) :
    ∃ j : Nat, j < m.log.length ∧ ∃ sz al : Nat, m.log[j]? = some (Event.alloc b sz al) := by
  obtain ⟨sz, al, h⟩ := exists_alloc (l := m.log) (b := b) (by rw [hi.na, if_pos hb]; exact Nat.zero_lt_one)
  obtain ⟨j, hj⟩ := List.mem_iff_getElem?.1 h
  exact ⟨j, (List.getElem?_eq_some_iff.1 hj).1, sz, al, hj⟩

/-- The memories differ at index `b` only and the log gains `A ++ (q ++ D)`, `q` quiet: nothing happens at `b` (`A`, `D`
empty), or `k'` now stands there.  `A` is the `alloc` event of `b` if the block is new, `D` its `dealloc` event if it dies.
`k₀` is the block at `b` between the two: the old block, or, for a new one, any live block with the layout of the `alloc`
event.  With it the choice of `A` and the choice of `D` do not depend on each other: the block is kept, dies, is born, or is
born dead. -/
theorem change {m : Mem} (hi : LogInv m) {m' : Mem} {b : Nat} {A q D : List Event} (hq : Quiet q)
    (hlog : m'.log = m.log ++ (A ++ (q ++ D))) (hne : ∀ j, j ≠ b → m'.blocks[j]? = m.blocks[j]?)
    (hb : m'.blocks[b]? = m.blocks[b]? ∧ A = [] ∧ D = [] ∨
      ∃ k₀ k', m'.blocks[b]? = some k' ∧ k'.lay = k₀.lay ∧ (k'.live = false → k'.count = 0) ∧
        (A = [] ∧ m.blocks[b]? = some k₀ ∨
          A = [.alloc b k₀.lay.size k₀.lay.align] ∧ b = m.blocks.length ∧ k₀.live = true) ∧
        (D = [] ∧ k'.live = k₀.live ∨ (∃ sz al, D = [.dealloc b sz al]) ∧ k₀.live = true ∧ k'.live = false)) :
    LogInv m' := by
  have hAD : (∀ j, A.countP (isDealloc j) = 0) ∧ ∀ j, D.countP (isAlloc j) = 0 := by
    rcases hb with ⟨_, rfl, rfl⟩ | ⟨_, _, _, _, _, ⟨rfl, _⟩ | ⟨rfl, _⟩, ⟨rfl, _⟩ | ⟨⟨_, _, rfl⟩, _⟩⟩ <;>
      exact ⟨fun _ => rfl, fun _ => rfl⟩
  have hca : ∀ j, m'.log.countP (isAlloc j) = m.log.countP (isAlloc j) + A.countP (isAlloc j) := fun j => by
    simp only [hlog, List.countP_append, hq.countAlloc, hAD.2, Nat.add_zero]
  have hcd : ∀ j, m'.log.countP (isDealloc j) = m.log.countP (isDealloc j) + D.countP (isDealloc j) := fun j => by
    simp only [hlog, List.countP_append, hq.countDealloc, hAD.1, Nat.zero_add]
  have hma : ∀ {j sz al}, Event.alloc j sz al ∈ m'.log → Event.alloc j sz al ∈ m.log ++ A := by
    intro j sz al h
    rw [hlog, ← List.append_assoc] at h
    rcases List.mem_append.1 h with h | h
    · exact h
    · rcases List.mem_append.1 h with h | h
      · exact nomatch hq _ h
      · exact absurd (beq_self_eq_true j) (List.countP_eq_zero.1 (hAD.2 j) _ h)
  -- the one case split on the index from which all six fields follow
  have hcase : ∀ j, m'.blocks[j]? = m.blocks[j]? ∧ A.countP (isAlloc j) = 0 ∧ D.countP (isDealloc j) = 0 ∨
      j = b ∧ ∃ k', m'.blocks[b]? = some k' ∧ (k'.live = false → k'.count = 0) ∧
        m.log.countP (isDealloc b) + D.countP (isDealloc b) = (if k'.live then 0 else 1) ∧
        m.log.countP (isAlloc b) + A.countP (isAlloc b) = 1 ∧
        ∀ sz al, Event.alloc b sz al ∈ m.log ++ A → k'.lay = ⟨sz, al⟩ := by
    intro j
    rcases hb with ⟨e, rfl, rfl⟩ | ⟨k₀, k', hk', hlay, hz, hA, hD⟩
    · exact .inl ⟨if h : j = b then h ▸ e else hne j h, rfl, rfl⟩
    by_cases hj : j = b
    · subst hj
      have h₀ : m.log.countP (isAlloc j) + A.countP (isAlloc j) = 1 ∧
          m.log.countP (isDealloc j) = (if k₀.live then 0 else 1) ∧
          ∀ sz al, Event.alloc j sz al ∈ m.log ++ A → k₀.lay = ⟨sz, al⟩ := by
        rcases hA with ⟨rfl, hk₀⟩ | ⟨rfl, rfl, hl₀⟩
        · refine ⟨by rw [hi.na, if_pos (List.getElem?_eq_some_iff.1 hk₀).1]; rfl, hi.nd j k₀ hk₀, fun sz al h => ?_⟩
          obtain ⟨k, hk, e⟩ := hi.lay j sz al (List.append_nil m.log ▸ h)
          exact Option.some.inj (hk.symm.trans hk₀) ▸ e
        · refine ⟨by rw [hi.na, if_neg (Nat.lt_irrefl _)]; simp [isAlloc],
            by rw [hi.ndo _ (Nat.le_refl _), hl₀]; rfl, fun sz al h => ?_⟩
          rcases List.mem_append.1 h with h | h
          · obtain ⟨k, hk, _⟩ := hi.lay _ sz al h
            exact nomatch (List.getElem?_eq_none (Nat.le_refl _)).symm.trans hk
          · cases List.mem_singleton.1 h
            rfl
      refine .inr ⟨rfl, k', hk', hz, ?_, h₀.1, fun sz al h => hlay.trans (h₀.2.2 sz al h)⟩
      rw [h₀.2.1]
      rcases hD with ⟨rfl, hlv⟩ | ⟨⟨_, _, rfl⟩, hl₀, hlv⟩
      · rw [hlv]; rfl
      · simp [hl₀, hlv, isDealloc]
    · refine .inl ⟨hne j hj, ?_, ?_⟩
      · rcases hA with ⟨rfl, _⟩ | ⟨rfl, _⟩
        · rfl
        · simp [isAlloc, Ne.symm hj]
      · rcases hD with ⟨rfl, _⟩ | ⟨⟨_, _, rfl⟩, _⟩
        · rfl
        · simp [isDealloc, Ne.symm hj]
  refine ⟨fun j k hk hd => ?_, fun j k hk => ?_, fun j hj => ?_, fun j => ?_, fun j sz al h => ?_, ?_⟩
  · rcases hcase j with ⟨e, _, _⟩ | ⟨rfl, k', hk', hz, _⟩
    · exact hi.dz j k (e ▸ hk) hd
    · cases hk'.symm.trans hk
      exact hz hd
  · rw [hcd]
    rcases hcase j with ⟨e, _, hd0⟩ | ⟨rfl, k', hk', _, hnd, _⟩
    · rw [hd0]
      exact hi.nd j k (e ▸ hk)
    · cases hk'.symm.trans hk
      exact hnd
  · rw [hcd]
    rcases hcase j with ⟨e, _, hd0⟩ | ⟨rfl, k', hk', _⟩
    · rw [hd0]
      exact hi.ndo j (List.getElem?_eq_none_iff.1 (e ▸ List.getElem?_eq_none hj))
    · exact absurd (List.getElem?_eq_some_iff.1 hk').1 (Nat.not_lt.2 hj)
  · rw [hca]
    rcases hcase j with ⟨e, ha0, _⟩ | ⟨rfl, k', hk', _, _, hna, _⟩
    · rw [ha0, hi.na, Nat.add_zero]
      simp only [← Nat.not_le, ← List.getElem?_eq_none_iff, e]
    · rw [hna, if_pos (List.getElem?_eq_some_iff.1 hk').1]
  · rcases hcase j with ⟨e, ha0, _⟩ | ⟨rfl, k', hk', _, _, _, hl⟩
    · rcases List.mem_append.1 (hma h) with h | h
      · exact e ▸ hi.lay j sz al h
      · exact absurd (beq_self_eq_true j) (List.countP_eq_zero.1 ha0 _ h)
    · exact ⟨k', hk', hl sz al (hma h)⟩
  · -- first `A`, then `q ++ D`, whose only `dealloc` is of `b`, allocated in `m.log ++ A`
    rw [hlog, ← List.append_assoc]
    refine ord_append (ord_append hi.ord fun j h => ?_) fun j h => ?_
    · exact absurd (hAD.1 j ▸ h) (Nat.lt_irrefl 0)
    · rw [List.countP_append, hq.countDealloc, Nat.zero_add] at h
      rcases hcase j with ⟨_, _, hd0⟩ | ⟨rfl, _, _, _, _, hna, _⟩
      · exact absurd (hd0 ▸ h) (Nat.lt_irrefl 0)
      · rw [List.countP_append, hna]
        exact Nat.zero_lt_one

theorem log {m : Mem} (hi : LogInv m) {m' : Mem} {es : List Event} (hq : Quiet es) (hb : m'.blocks = m.blocks)
    (hlog : m'.log = m.log ++ es) : LogInv m' :=
  hi.change (b := 0) (A := []) (D := []) hq (hlog.trans (congrArg _ (List.append_nil es).symm)) (fun _ _ => by rw [hb])
    (.inl ⟨by rw [hb], rfl, rfl⟩)

theorem emit {m : Mem} (hi : LogInv m) {es : List Event} (hq : Quiet es) : LogInv (m.emit es) := hi.log hq rfl rfl

theorem upd {m : Mem} (hi : LogInv m) (b : Nat) (f : Block → Block)
    (hf : ∀ k, m.blocks[b]? = some k →
      (f k).live = k.live ∧ (f k).lay = k.lay ∧ (k.live = false → k.count = 0 → (f k).count = 0)) :
    LogInv (m.upd b f) := by
  have e : (m.upd b f).blocks[b]? = m.blocks[b]?.map f := List.getElem?_modify_eq f b m.blocks
  refine hi.change (A := []) (D := []) Quiet.nil (List.append_nil _).symm
    (fun _ hj => List.getElem?_modify_ne f _ (Ne.symm hj)) ?_
  cases hk : m.blocks[b]? with
  | none => exact .inl ⟨e.trans (congrArg _ hk), rfl, rfl⟩
  | some k =>
    obtain ⟨h1, h2, h3⟩ := hf k hk
    exact .inr ⟨k, f k, e.trans (congrArg _ hk), h2, fun h => h3 (h1 ▸ h) (hi.dz b k hk (h1 ▸ h)), .inl ⟨rfl, rfl⟩,
      .inl ⟨rfl, h1⟩⟩

theorem free {m : Mem} (hi : LogInv m) {b : Nat} {k : Block} (hk : m.blocks[b]? = some k)
    (hl : k.live = true) {es : List Event} (hq : Quiet es) (sz al : Nat) :
    LogInv ((m.upd b fun k => { k with count := 0, live := false }).emit (es ++ [Event.dealloc b sz al])) :=
  hi.change (A := []) hq rfl (fun _ hj => List.getElem?_modify_ne _ _ (Ne.symm hj))
    (.inr ⟨k, _, (List.getElem?_modify_eq _ b m.blocks).trans (congrArg _ hk), rfl, fun _ => rfl, .inl ⟨rfl, hk⟩,
      .inr ⟨⟨sz, al, rfl⟩, hl, rfl⟩⟩)

theorem append_block {m : Mem} (hi : LogInv m) {m' : Mem} {k' : Block} {q D : List Event} (hq : Quiet q)
    (hb : m'.blocks = m.blocks ++ [k'])
    (hlog : m'.log = m.log ++ (.alloc m.blocks.length k'.lay.size k'.lay.align :: (q ++ D)))
    (hz : k'.live = false → k'.count = 0)
    (hD : D = [] ∧ k'.live = true ∨ (∃ sz al, D = [.dealloc m.blocks.length sz al]) ∧ k'.live = false) : LogInv m' :=
  hi.change (A := [_]) hq hlog (fun _ hj => hb ▸ getElem?_concat_ne hj)
    (.inr ⟨{ k' with live := true }, k', hb ▸ List.getElem?_concat_length, rfl, hz, .inr ⟨rfl, rfl, rfl⟩,
      hD.imp id fun h => ⟨h.1, rfl, h.2⟩⟩)

theorem alloc {m : Mem} (hi : LogInv m) (lay : LY.Layout) (hdr : Option Item) (rl : Option Nat)
    (el : List (Option Item)) : LogInv (allocBlock m lay hdr rl el).1 :=
  hi.append_block Quiet.nil rfl rfl nofun (.inl ⟨rfl, rfl⟩)

theorem incr {m : Mem} (hi : LogInv m) {b : Nat} {k : Block} (hk : m.blocks[b]? = some k) (hl : k.live = true) :
    LogInv (incr m b) := by
  apply hi.upd
  intro k' hk'
  rw [hk] at hk'; cases hk'
  exact ⟨rfl, rfl, fun h => by rw [hl] at h; cases h⟩

theorem writeVal {m : Mem} (hi : LogInv m) (b v : Nat) : LogInv (writeVal m b v) := by
  apply hi.upd
  intro k _
  split
  · exact ⟨rfl, rfl, fun _ h => h⟩
  · split <;> exact ⟨rfl, rfl, fun _ h => h⟩

theorem decr {m : Mem} (hi : LogInv m) (b : Nat) (t : Ty) (len : Nat) : LogInv (decr m b t len) := by
  unfold M1.decr
  split
  · exact hi
  · rename_i k hk
    split
    · rename_i h1
      have hl : k.live = true :=
        Bool.of_not_eq_false fun hlv => Nat.zero_ne_one ((hi.dz b k hk hlv).symm.trans h1)
      exact hi.free hk hl (quiet_payloadDrops b k t len) _ _
    · exact hi.upd b _ (fun _ _ => ⟨rfl, rfl, fun _ h => by simp [h]⟩)

theorem cloneValue {m : Mem} (hi : LogInv m) (b : Nat) : LogInv (cloneValue m b).1 := by
  unfold M1.cloneValue
  split
  · exact hi.log (Quiet.cons rfl Quiet.nil) rfl rfl
  · exact hi

theorem into_inner {m : Mem} (hi : LogInv m) {u : HV} {k : Block} (hk : m.blocks[u.blk]? = some k)
    (hl : k.live = true) : LogInv (UniqueArc.into_inner m u).1 := by
  unfold UniqueArc.into_inner
  rw [hk]
  exact hi.free hk hl Quiet.nil _ _

theorem arc_new {m : Mem} (hi : LogInv m) (t : Ty) (v : Option Item) : LogInv (Arc.new m t v).1 :=
  hi.alloc ..

end LogInv

end M1
