import TriompheModel.Proofs.StepGraph
/-!
# Length / layout typing of handle values

`Shape` is the part of a block that never changes after its allocation.  `LenOk h sh`: the handle value `h` views a block
of shape `sh` at its real length; `LayOk h sh`: the release side (`Layout::for_value` through `h`'s `Arc` view) computes
the requested layout.  Every handle-to-handle function of `Model/Handles.lean` / `runConv` preserves both, and every
constructor returns a handle for which both hold.  `Kind.isThin` (thin handles read their length from the block) is defined
here.
-/
namespace M1
open LY

structure Shape where
  n : Nat               -- number of payload slots (`elems.length`)
  rl : Option Nat       -- the stored length word
  lay : Layout          -- the layout requested from the allocator
deriving DecidableEq

def Block.shape (k : Block) : Shape := ⟨k.elems.length, k.recLen, k.lay⟩

def Kind.isThin : Kind → Bool
  | .thin | .rawThin => true
  | _ => false

namespace Kind

theorem isThin_iff {kd : Kind} : kd.isThin = true ↔ kd = .thin ∨ kd = .rawThin := by
  cases kd <;> decide

end Kind

structure LenOk (h : HV) (sh : Shape) : Prop where
  /-- thin pointers: the view type is the `HeaderWithLength` one and the stored length is real -/
  thin : h.kind.isThin = true → h.ty = .hwl ∧ sh.rl = some sh.n
  /-- fat pointers carry the real length -/
  fat : h.kind.isThin = false → h.ty.isSlicey = true → h.len = sh.n
  /-- sized views are only used on one-slot blocks -/
  one : h.ty.isSlicey = false → sh.n = 1
  /-- a `HeaderWithLength` view is only used on blocks that store a length word -/
  hasRl : h.ty = .hwl → sh.rl ≠ none
  /-- `OffsetArc` exists only for the sized payload type -/
  off : h.kind = .offset → h.ty = .sized

def LayOk (h : HV) (sh : Shape) : Prop := h.ty.releaseLayout sh.n = sh.lay

/-- `wl` switches the layout clause on (one proof serves `LenInv` alone and `LenInv ∧ LayInv`) -/
def Ok (wl : Prop) (h : HV) (sh : Shape) : Prop := LenOk h sh ∧ (wl → LayOk h sh)

theorem viewLen_thin {m : Mem} {h : HV} (hk : h.kind.isThin = true) :
    viewLen m h = ((m.blocks[h.blk]?.bind (·.recLen))).getD 0 := by
  obtain ⟨kd, _, _, _, _⟩ := h
  cases kd
  case thin | rawThin => rfl
  all_goals cases hk

theorem viewLen_fat {m : Mem} {h : HV} (hk : h.kind.isThin = false) :
    viewLen m h = if h.ty.isSlicey then h.len else 1 := by
  obtain ⟨kd, _, _, _, _⟩ := h
  cases kd
  case thin | rawThin => cases hk
  all_goals rfl

theorem hwl_slicey : Ty.hwl.isSlicey = true := rfl

theorem viewLen_of_ok {m : Mem} {h : HV} {k : Block} (hk : m.blocks[h.blk]? = some k)
    (ho : LenOk h k.shape) : viewLen m h = k.elems.length := by
  cases ht : h.kind.isThin with
  | true => rw [viewLen_thin ht, hk]; exact congrArg (Option.getD · 0) (ho.thin ht).2
  | false =>
    rw [viewLen_fat ht]
    cases hs : h.ty.isSlicey with
    | true => exact ho.fat ht hs
    | false => exact (ho.one hs).symm

/-! ## layout equalities between the view types a conversion may swap -/

theorem release_uslice_slice (n : Nat) : Ty.uslice.releaseLayout n = Ty.slice.releaseLayout n := by
  have h := headerSliceLayout_unit (t := trackedLay) (e := 2) (by decide) (by decide) n
  simp only [Ty.releaseLayout, Ty.valueLayout, Ty.hdrLay, Ty.elemLay, h]

theorem release_muSlice_slice (n : Nat) : Ty.muSlice.releaseLayout n = Ty.slice.releaseLayout n := rfl
theorem release_mu_sized (n : Nat) : Ty.mu.releaseLayout n = Ty.sized.releaseLayout n := rfl
theorem release_dyn_sized (n : Nat) : Ty.dyn.releaseLayout n = Ty.sized.releaseLayout n := rfl
theorem release_hsMu_hs (n : Nat) : Ty.hsMu.releaseLayout n = Ty.hs.releaseLayout n := rfl

/-- a sized view releases with `ArcInner<T>`'s layout, which is what `Box::new` requested -/
theorem release_nonslicey {t : Ty} (ht : t.isSlicey = false) (n : Nat) :
    t.releaseLayout n = allocLayoutBoxNew bits t.elemLay := by
  have : t.valueLayout n = t.elemLay := by
    cases t
    case sized | sizedB | dyn | mu => rfl
    all_goals cases ht
  unfold Ty.releaseLayout allocLayoutBoxNew
  rw [this]

/-! ## a `dyn` view of a sized payload (`Arc<dyn Tr>`, `UniqueArc<dyn Tr>`)

It sees one element, considers it initialised, and releases exactly like the sized view: same
destructor events, same `dealloc` layout. -/

theorem dyn_elemsInit : Ty.dyn.elemsInit = true := rfl

theorem viewLen_dyn {m : Mem} {h : HV} (hk : h.kind.isThin = false) : viewLen m { h with ty := .dyn } = 1 := by
  rw [viewLen_fat (h := { h with ty := .dyn }) hk]; rfl

theorem decr_dyn_sized (m : Mem) (b n : Nat) : decr m b .dyn n = decr m b .sized n := rfl

theorem toDyn_uniq {m : Mem} {h : HV} (hk : h.kind = .uniq) (hty : h.ty = .sized) :
    runConv m h .toDyn = some { h with ty := .dyn } := by
  cases h; subst hk hty; rfl

theorem shareable_uniq_dyn {m : Mem} {h : HV} (hk : h.kind = .uniq) :
    runConv m { h with ty := .dyn } .shareable = some { h with kind := .arc, ty := .dyn } := by
  cases h; subst hk; rfl

theorem dropHandle_uniq_dyn {m : Mem} {h : HV} (hk : h.kind = .uniq) (hty : h.ty = .sized) :
    dropHandle m { h with ty := .dyn } = dropHandle m h := by
  cases h; subst hk hty; rfl

theorem digest_uniq_dyn {m : Mem} {h : HV} (hk : h.kind = .uniq) (hty : h.ty = .sized) :
    digest m { h with ty := .dyn } = digest m h := by
  cases h; subst hk hty; rfl

/-! ## handle transformations -/

namespace Ok
variable {wl : Prop} {h h' : HV} {sh : Shape}

theorem retype (ho : Ok wl h sh) (hk : h.kind.isThin = false) (hk' : h'.kind.isThin = false)
    (hlen : h'.len = h.len) (hsl : h'.ty.isSlicey = h.ty.isSlicey) (hhwl : h'.ty = .hwl → h.ty = .hwl)
    (hrel : ∀ n, h'.ty.releaseLayout n = h.ty.releaseLayout n) (hoff : h'.kind = .offset → h'.ty = .sized) :
    Ok wl h' sh := by
  refine ⟨⟨?_, ?_, ?_, ?_, hoff⟩, ?_⟩
  · intro ht; rw [hk'] at ht; cases ht
  · intro _ hs; rw [hlen]; exact ho.1.fat hk (hsl ▸ hs)
  · intro hs; exact ho.1.one (hsl ▸ hs)
  · intro ht; exact ho.1.hasRl (hhwl ht)
  · intro hw; unfold LayOk; rw [hrel]; exact ho.2 hw

theorem rekind (ho : Ok wl h sh) (hk : h.kind.isThin = false) (hk' : h'.kind.isThin = false)
    (hlen : h'.len = h.len) (hty : h'.ty = h.ty) (hoff : h'.kind = .offset → h.ty = .sized) :
    Ok wl h' sh :=
  ho.retype hk hk' hlen (congrArg _ hty) (fun e => hty ▸ e) (fun n => congrArg (·.releaseLayout n) hty)
    fun e => hty.trans (hoff e)

/-- a cast of an `Arc` / `UniqueArc` to a view type of the same shape and release layout -/
theorem review {t t' : Ty} (ho : Ok wl h sh) (hk : h.kind = .arc ∨ h.kind = .uniq) (hty : h.ty = t)
    (hsl : t'.isSlicey = t.isSlicey) (hhwl : t' ≠ .hwl) (hrel : ∀ n, t'.releaseLayout n = t.releaseLayout n) :
    Ok wl { h with ty := t' } sh :=
  have hnt : h.kind.isThin = false := hk.elim (fun e => e ▸ rfl) fun e => e ▸ rfl
  ho.retype hnt hnt rfl (hty ▸ hsl) (fun e => absurd e hhwl) (fun n => hty ▸ hrel n)
    fun e => hk.elim (fun e' => nomatch e'.symm.trans e) fun e' => nomatch e'.symm.trans e

/-- from a `HeaderWithLength` view of a block whose stored length is the real one to another: thin, or fat with
that length -/
theorem hwl (ho : Ok wl h sh) (hty : h.ty = .hwl) (hrec : sh.rl = some sh.n) (hty' : h'.ty = .hwl)
    (hlen : h'.kind.isThin = false → h'.len = sh.n) (hoff : h'.kind ≠ .offset) : Ok wl h' sh := by
  refine ⟨⟨fun _ => ⟨hty', hrec⟩, fun ht _ => hlen ht, ?_, ?_, fun e => absurd e hoff⟩, ?_⟩
  · intro hs; rw [hty'] at hs; cases hs
  · intro _; rw [hrec]; simp
  · intro hw; unfold LayOk; rw [hty', ← hty]; exact ho.2 hw

/-- fat → thin (`into_thin`) -/
theorem toThin (ho : Ok wl h sh) (hty : h.ty = .hwl) (hrec : sh.rl = some sh.n)
    (hk' : h'.kind.isThin = true) (hty' : h'.ty = .hwl) : Ok wl h' sh :=
  ho.hwl hty hrec hty' (fun ht => nomatch hk'.symm.trans ht) fun e => nomatch (e ▸ hk' : Kind.offset.isThin = true)

theorem thinThin (ho : Ok wl h sh) (hk : h.kind.isThin = true) (hk' : h'.kind.isThin = true)
    (hty' : h'.ty = .hwl) : Ok wl h' sh :=
  ho.toThin (ho.1.thin hk).1 (ho.1.thin hk).2 hk' hty'

end Ok

/-! ## the handle functions of the model -/

section
variable {wl : Prop} {m : Mem} {h : HV} {k : Block}

theorem isThin_of_eq {h : HV} {kd : Kind} {b : Bool} (hk : h.kind = kd) (hkd : kd.isThin = b) :
    h.kind.isThin = b := by rw [hk]; exact hkd

theorem Ok.release (ho : Ok wl h k.shape) (hk : m.blocks[h.blk]? = some k) (hw : wl) :
    h.ty.releaseLayout (viewLen m h) = k.lay := by
  rw [viewLen_of_ok hk ho.1]; exact ho.2 hw

/-- thin → fat (`thin_to_thick`): the length is read from the block -/
theorem thick_ok (ho : Ok wl h k.shape) (hk : m.blocks[h.blk]? = some k) (ht : h.kind.isThin = true) :
    Ok wl (ThinArc.thick m h) k.shape :=
  ho.hwl (ho.1.thin ht).1 (ho.1.thin ht).2 rfl (fun _ => viewLen_of_ok hk ho.1) nofun

theorem asArc_ok (ho : Ok wl h k.shape) (hk : m.blocks[h.blk]? = some k) :
    m.blocks[(asArc m h).blk]? = some k ∧ Ok wl (asArc m h) k.shape := by
  obtain ⟨kd, _, _, _, _⟩ := h
  cases kd
  case thin => exact ⟨hk, thick_ok ho hk rfl⟩
  case rawThin => exact ⟨hk, thick_ok (h := ThinArc.from_raw _) (ho.thinThin rfl rfl (ho.1.thin rfl).1) hk rfl⟩
  all_goals exact ⟨hk, ho.rekind rfl rfl rfl rfl nofun⟩

theorem cloneHandle_fields {m' : Mem} {c : HV} (hc : cloneHandle m h = some (m', c)) :
    c.kind = h.kind ∧ (h.kind.isThin = false → c.ty = h.ty ∧ c.len = h.len) ∧ (h.kind.isThin = true → c.ty = .hwl) := by
  obtain ⟨kd, _, _, _, _⟩ := h
  cases kd <;> cases hc
  case thin => exact ⟨rfl, nofun, fun _ => rfl⟩
  all_goals exact ⟨rfl, fun _ => ⟨rfl, rfl⟩, nofun⟩

theorem cloneHandle_ok {m' : Mem} {c : HV} (hc : cloneHandle m h = some (m', c))
    (ho : Ok wl h k.shape) : Ok wl c k.shape := by
  obtain ⟨hkd, hfat, hthin⟩ := cloneHandle_fields hc
  cases ht : h.kind.isThin with
  | true => exact ho.thinThin ht (hkd ▸ ht) (hthin ht)
  | false => exact ho.rekind ht (hkd ▸ ht) (hfat ht).2 (hfat ht).1 fun e => ho.1.off (hkd ▸ e)

theorem runConv_ok {h' : HV} {c : Conv} (hc : runConv m h c = some h') (ho : Ok wl h k.shape)
    (hk : m.blocks[h.blk]? = some k) : Ok wl h' k.shape := by
  cases runConv_graph hc with
  | intoRaw hg | unionFirst hg | unionSecond hg | shareable hg => exact ho.rekind (isThin_of_eq hg.1 rfl) rfl rfl rfl nofun
  | fromRaw hg | fromRawOffset hg => exact ho.rekind (isThin_of_eq hg rfl) rfl rfl rfl nofun
  | intoRawOffset hg => exact ho.rekind (isThin_of_eq hg.1 rfl) rfl rfl rfl fun _ => hg.2
  | fromThin hg => exact thick_ok ho hk (isThin_of_eq hg rfl)
  | thinIntoRaw hg | thinFromRaw hg => exact ho.thinThin (isThin_of_eq hg rfl) rfl (ho.1.thin (isThin_of_eq hg rfl)).1
  | eraseHeader hg => exact ho.review (.inl hg.1) hg.2 rfl (by decide) fun n => (release_uslice_slice n).symm
  | addHeader hg => exact ho.review (.inl hg.1) hg.2 rfl (by decide) release_uslice_slice
  | assumeMu hg hty => exact ho.review hg.1 hty rfl (by decide) fun n => (release_mu_sized n).symm
  | assumeMuSlice hg hty => exact ho.review hg.1 hty rfl (by decide) fun n => (release_muSlice_slice n).symm
  | assumeHsMu hg hty => exact ho.review hg.1 hty rfl (by decide) fun n => (release_hsMu_hs n).symm
  | toDynArc hg =>
    exact (ho.review (t' := .dyn) (.inl hg.1) hg.2 rfl (by decide) release_dyn_sized).rekind
      (isThin_of_eq hg.1 rfl) rfl rfl rfl nofun
  | toDynUniq hg => exact ho.review (.inr hg.1) hg.2 rfl (by decide) release_dyn_sized

end

/-! ## constructors return well-typed handles -/

section
variable {wl : Prop}

theorem ok_sized_new {t : Ty} (ht : t.isSlicey = false) {kd : Kind} (hkd : kd.isThin = false)
    (hoff : kd ≠ .offset) {b o l : Nat} {rl : Option Nat} :
    Ok wl ⟨kd, t, b, o, l⟩ ⟨1, rl, allocLayoutBoxNew bits t.elemLay⟩ := by
  refine ⟨⟨?_, ?_, ?_, ?_, ?_⟩, ?_⟩
  · intro h; rw [hkd] at h; cases h
  · intro _ h; rw [ht] at h; cases h
  · intro _; rfl
  · intro h; simp only at h; rw [h] at ht; cases ht
  · intro h; exact absurd h hoff
  · intro _; exact release_nonslicey ht 1

theorem ok_slice_new {t : Ty} (ht : t.isSlicey = true) {kd : Kind} (hkd : kd.isThin = false)
    (hoff : kd ≠ .offset) {b o n : Nat} {rl : Option Nat} {lay : Layout} (hrl : t = .hwl → rl ≠ none)
    (hlay : t.releaseLayout n = lay) :
    Ok wl ⟨kd, t, b, o, n⟩ ⟨n, rl, lay⟩ := by
  refine ⟨⟨?_, ?_, ?_, hrl, ?_⟩, ?_⟩
  · intro h; rw [hkd] at h; cases h
  · intro _ _; rfl
  · intro h; rw [ht] at h; cases h
  · intro h; exact absurd h hoff
  · intro _; exact hlay

/-! ### request = release for the three header shapes of the history model -/

theorem rel_unit {n : Nat} {lay : Layout} (h : allocLayoutHeaderSlice bits unitLayout trackedLay n = some lay) :
    Ty.slice.releaseLayout n = lay ∧ Ty.muSlice.releaseLayout n = lay ∧ Ty.uslice.releaseLayout n = lay := by
  have := allocLayoutHeaderSlice_some_eq h
  have hu : Ty.uslice.releaseLayout n = lay := this.symm
  exact ⟨by rw [← release_uslice_slice]; exact hu, by rw [release_muSlice_slice, ← release_uslice_slice]; exact hu, hu⟩

theorem rel_tracked {n : Nat} {lay : Layout} (h : allocLayoutHeaderSlice bits trackedLay trackedLay n = some lay) :
    Ty.hs.releaseLayout n = lay ∧ Ty.hsMu.releaseLayout n = lay := by
  have := allocLayoutHeaderSlice_some_eq h
  exact ⟨this.symm, this.symm⟩

theorem rel_hwl {n : Nat} {lay : Layout} (h : allocLayoutHeaderSlice bits Ty.hwl.hdrLay trackedLay n = some lay) :
    Ty.hwl.releaseLayout n = lay := (allocLayoutHeaderSlice_some_eq h).symm

theorem rel_box {lay : Layout} (h : allocLayoutFor bits trackedLay = some lay) :
    lay = allocLayoutBoxNew bits Ty.sized.elemLay := (allocLayoutFor_some h).1

theorem ctor_ok (c : Ctor) {lay : Layout} (hl : c.lay? = some lay) (b : Nat) :
    Ok wl (c.handle b) ⟨c.elems.length, c.recLen, lay⟩ := by
  rw [Ctor.elems_length]
  cases c with
  | new | newB | uniqueNew | newUninit | uniqueNewUninit => cases hl; exact ok_sized_new rfl rfl (by decide)
  | fromBox => obtain rfl := rel_box hl; exact ok_sized_new rfl rfl (by decide)
  | fromVec => exact ok_slice_new rfl rfl (by decide) (by intro h; cases h) (rel_unit hl).1
  | hsFromVec => exact ok_slice_new rfl rfl (by decide) (by intro h; cases h) (rel_tracked hl).1
  | hwlFromVec => exact ok_slice_new rfl rfl (by decide) (fun _ h => by cases h) (rel_hwl hl)
  | newUninitSlice | uniqueNewUninitSlice => exact ok_slice_new rfl rfl (by decide) (by intro h; cases h) (rel_unit hl).2.1
  | hsUninit => exact ok_slice_new rfl rfl (by decide) (by intro h; cases h) (rel_tracked hl).2

theorem iter_ok (which : IterCtor) {n : Nat} {lay : Layout}
    (hl : allocLayoutHeaderSlice bits which.hdrLay trackedLay n = some lay) (b : Nat) :
    Ok wl ⟨which.kind, which.ty, b, 0, which.lenOf n⟩ ⟨n, which.recOf n, lay⟩ := by
  cases which with
  | hsFromIter => exact ok_slice_new rfl rfl (by decide) (by intro h; cases h) (rel_tracked hl).1
  -- `from_header_and_iter`, then `into_thin`
  | thinFromIter =>
    exact (ok_slice_new (t := .hwl) (kd := .arc) (b := b) (o := 0) rfl rfl (by decide) (fun _ => Option.some_ne_none n)
      (rel_hwl hl)).toThin rfl rfl rfl rfl
  | fromIter | uniqueFromIter => exact ok_slice_new rfl rfl (by decide) (by intro h; cases h) (rel_unit hl).1
end

end M1
