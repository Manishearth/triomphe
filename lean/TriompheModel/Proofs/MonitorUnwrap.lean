import TriompheModel.Proofs.MonitorBase
import TriompheModel.Props.C15
/-!
# K8 (C09, unwrapping), K9 (C10, thin ⇄ fat conversions), K10 (C15, uninitialised views) on the model's observations
-/
namespace M1
namespace Mon

attribute [local simp] isPanic_ok isPanic_panicked verdict_tryUnwrap_ok verdict_tryUnwrap_err valShown_val

theorem lookupO_del_self (s : State) (m : Mem) (src : Nat) : lookupO (observeSlots (s.del m src)) src = none := by
  rw [lookupO_observe, lookup_eq, del_slots, lookupL_delL, if_pos rfl]; rfl

theorem owners_del {s : State} (hi : Inv s) {src : Nat} {h : HV} (hs : lookup s src = some h) (m : Mem) :
    owners (s.del m src) h.blk + 1 = owners s h.blk := by
  have := ownersL_del hi.keys (lookup_mem hs) h.blk
  rwa [if_pos rfl] at this

theorem owners_set {s : State} (hi : Inv s) {src : Nat} {h h' : HV} (hs : lookup s src = some h) (m : Mem)
    (hb : h'.blk = h.blk) : owners (s.set m src h') h.blk = owners s h.blk := by
  have := ownersL_set (h' := h') hi.keys (lookup_mem hs) h.blk
  simp only [hb, if_true] at this
  exact Nat.add_right_cancel this

theorem k8_badOp {pre : List (Nat × SlotObs)} {op : Op} {o : Obs} (h : o.badOp = true) : checkK8 pre op o = [] := by
  unfold checkK8
  split <;> simp [h]

theorem K8_sound {s : State} (hi : Inv s) (op : Op) : checkK8 (observeSlots s) op (observe s op) = [] := by
  obtain ⟨r, e, hr⟩ := step_cases s op
  cases hr with
  | bad => exact k8_badOp (by rw [observe_bad e])
  | tryUnwrapOk hl | intoInner hl =>
    obtain ⟨sz, al, ho⟩ := observe_into_inner hi hl e rfl
    rw [ho]
    simp [checkK8, lookupO_pre hl, movedOut, isDropEv, isDeallocEv]
  | tryUnwrapErr hl =>
    rw [observe_quiet e rfl]
    simp [checkK8, lookupO_pre hl]
  | unwrapOrCloneSole hl _ hu =>
    obtain ⟨sz, al, ho⟩ := observe_into_inner hi hl e rfl
    rw [ho]
    simp [checkK8, lookupO_pre hl, ownersO_observe, unique_owners hi hl hu, isCloneEv, isDropEv]
  | unwrapOrClonePanic hl _ hu =>
    rw [observe_quiet e (drop_shared_log rfl hu)]
    simp [checkK8]
  | @unwrapOrCloneShared src h hl _ hu =>
    have hn := shared_owners hi hl hu
    obtain ⟨ce, hce, hcc, _⟩ := cloneValue_log s.mem h.blk
    rw [observe_of e ((drop_shared_log (by rw [cloneValue_blocks]) hu).trans hce)]
    simp [checkK8, lookupO_pre hl, ownersO_observe, hn, hcc, owners_del hi hl]
  | _ => rfl

theorem checkK8_withEvs (pre : List (Nat × SlotObs)) (op : Op) (o : Obs) (evs' : List Event)
    (h : evs'.Perm o.evs) : checkK8 pre op (o.withEvs evs') = checkK8 pre op o := by
  unfold checkK8 movedOut Obs.withEvs
  simp only [h.countP_eq]

theorem k9_badOp {pre : List (Nat × SlotObs)} {op : Op} {o : Obs} (h : o.badOp = true) : checkK9 pre op o = [] := by
  unfold checkK9
  split <;> simp [h]

theorem thinConv_view {m : Mem} {h h' : HV} {c : Conv} (htc : thinConv c = true) (hc : runConv m h c = some h')
    (hty : h.kind = .thin → h.ty = .hwl) :
    h'.blk = h.blk ∧ viewLen m h' = viewLen m h ∧ h'.ty.elemsInit = h.ty.elemsInit := by
  cases runConv_graph hc with
  | fromThin hk => exact ⟨rfl, rfl, by rw [hty hk]; rfl⟩
  | thinIntoRaw hk | thinFromRaw hk => exact ⟨rfl, by unfold viewLen; rw [hk]; rfl, rfl⟩
  | _ => cases htc

theorem k9_kept {s : State} (hi : Inv s) {src : Nat} {h h' : HV} (hs : lookup s src = some h)
    (hb : h'.blk = h.blk) (hvl : viewLen s.mem h' = viewLen s.mem h) (hty : h'.ty.elemsInit = h.ty.elemsInit)
    {op : Op} (hop : (∃ c, op = .conv src c) ∨ op = .intoThin src) {x : String}
    (e : step s op = (s.set s.mem src h', ok x)) :
    checkK9 (observeSlots s) op (observe s op) = [] := by
  have hd : digObs s.mem h' = digObs s.mem h := by rw [digObs_eq, digObs_eq, hb, hvl, hty]
  rw [observe_quiet e rfl]
  rcases hop with ⟨c, rfl⟩ | rfl <;>
    simp [checkK9, keptView, lookupO_pre hs, lookupO_set_self hs, slotObs, hb, hvl, hd, ownersO_observe,
      owners_set hi hs _ hb]

theorem K9_sound {s : State} (hi : Inv s) (hl : LenInv s) (op : Op) :
    checkK9 (observeSlots s) op (observe s op) = [] := by
  obtain ⟨r, e, hr⟩ := step_cases s op
  cases hr with
  | bad => exact k9_badOp (by rw [observe_bad e])
  | @conv src h h' c hs hc =>
    cases htc : thinConv c with
    | false => simp [checkK9, htc]
    | true =>
      obtain ⟨k, _, ho⟩ := hl.ok src h (lookup_mem hs)
      obtain ⟨hb, hvl, hty⟩ := thinConv_view htc hc (fun hk => (ho.thin (by rw [hk]; rfl)).1)
      exact k9_kept hi hs hb hvl hty (.inl ⟨c, rfl⟩) e
  | @intoThin src h hs hk hrec =>
    exact k9_kept hi hs (h' := ThinArc.of_arc h) rfl
      (by simp [viewLen, ThinArc.of_arc, hk.1, hk.2, Ty.isSlicey, hrec]) rfl (.inr rfl) e
  | @intoThinRefused src h hs hk hrec =>
    -- the argument was released: one owner less, and the remaining handles on the block report that count
    obtain ⟨k, hkb, _, _, hcnt⟩ := slot_block hi hs
    have hi' : Inv (s.del (Arc.drop s.mem h) src) := by
      have := inv_step s (.intoThin src) hi
      rwa [e] at this
    have hown : (owners (s.del (Arc.drop s.mem h) src) h.blk + 1 == owners s h.blk) = true :=
      beq_iff_eq.2 (owners_del hi hs _)
    rw [observe_of e (arc_drop_log hkb)]
    simp only [checkK9, lookupO_pre hs, isBadOp_panicked, isPanic_panicked, Bool.false_eq_true, if_false, if_true]
    rw [if_pos]
    simp only [refusedReleased, Bool.and_eq_true, lookupO_del_self, ownersO_observe, Bool.or_eq_true]
    refine ⟨⟨⟨rfl, hown⟩, ?_⟩, ?_⟩
    · rw [List.all_eq_true]
      intro e' he'
      rw [Bool.or_eq_true]
      by_cases hbb : e'.2.blk = h.blk
      · right
        cases hoc : e'.2.cnt with
        | none => rfl
        | some c => rw [Option.all_some, probe_cnt hi' he' hoc, hbb]; exact hown
      · exact .inl (bne_iff_ne.2 hbb)
    · by_cases hn1 : owners s h.blk = 1
      · -- the last owner: the release freed the block
        right
        rw [if_pos (hcnt.trans hn1)]
        exact bne_iff_ne.2 fun h0 =>
          List.countP_eq_zero.1 h0 _ (List.mem_append_right _ (List.mem_singleton_self _)) (beq_self_eq_true _)
      · exact .inl (bne_iff_ne.2 hn1)
  | _ => rfl

theorem checkK9_withEvs (pre : List (Nat × SlotObs)) (op : Op) (o : Obs) (evs' : List Event)
    (h : evs'.Perm o.evs) : checkK9 pre op (o.withEvs evs') = checkK9 pre op o := by
  unfold checkK9 keptView refusedReleased Obs.withEvs
  simp only [h.countP_eq, h.isEmpty_eq]

theorem k10_badOp {pre : List (Nat × SlotObs)} {op : Op} {o : Obs} (h : o.badOp = true) : checkK10 pre op o = [] := by
  unfold checkK10
  split <;> simp [h]

/-- the events of the last `drop_inner` through a view whose elements are `MaybeUninit`: the header's destructor (if
the payload has a header), then the `dealloc` — no element destructor -/
theorem uninit_release_no_element_drop (b : Nat) (k : Block) (t : Ty) (len sz al : Nat) (ht : t.elemsInit = false)
    (last : Prop) [Decidable last] :
    (if last then payloadDrops b k t len ++ [Event.dealloc b sz al] else []).countP
      (isDropOther (k.hdr.map (·.id))) = 0 := by
  split
  · rw [C15.C15_drop_uninit_no_element_drop b k t len ht]
    cases k.hdr <;> simp [isDropOther]
  · rfl

theorem K10_sound {s : State} (hl : LenInv s) (op : Op) :
    checkK10 (observeSlots s) op (observe s op) = [] := by
  obtain ⟨r, e, hr⟩ := step_cases s op
  cases hr with
  | bad => exact k10_badOp (by rw [observe_bad e])
  | @drop src h m hs hd =>
    cases hei : h.ty.elemsInit with
    | true => simp [checkK10, lookupO_pre hs, slotObs, hei]
    | false =>
      obtain ⟨k, hkb, ho⟩ := hl.ok src h (lookup_mem hs)
      obtain rfl := dropHandle_eq hd
      have hhdr : hdrIdO (slotObs s.mem h) = k.hdr.map (·.id) := by simp [hdrIdO, slotObs, digObs, hkb]
      rw [observe_of e (arc_drop_log (a := asArc s.mem h) (by rw [asArc_blk]; exact hkb))]
      have ht : (asArc s.mem h).ty.elemsInit = false := by rw [asArc_ty ho]; exact hei
      simp [checkK10, lookupO_pre hs, hhdr, uninit_release_no_element_drop _ _ _ _ _ _ ht]
  | @conv src h h' c hs hc =>
    cases c with
    | assumeInit =>
      obtain ⟨hb, _, _, hkd, _⟩ := C15.C15_assume_init_is_cast s.mem h h' hc
      have hcnt : obsCnt s.mem h' = obsCnt s.mem h := by unfold obsCnt; rw [hkd, hb]
      rw [observe_quiet e rfl]
      simp [checkK10, isAssumeInit, lookupO_pre hs, lookupO_set_self hs, slotObs, hb, hcnt]
    | _ => rfl
  | _ => rfl

theorem checkK10_withEvs (pre : List (Nat × SlotObs)) (op : Op) (o : Obs) (evs' : List Event)
    (h : evs'.Perm o.evs) : checkK10 pre op (o.withEvs evs') = checkK10 pre op o := by
  unfold checkK10 Obs.withEvs
  simp only [h.countP_eq, h.isEmpty_eq]

end Mon
end M1
