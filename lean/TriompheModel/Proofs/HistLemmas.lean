import TriompheModel.Model.Ops
/-!
# The core view of memory and the slot table as a list

`cv m b` is the triple (count, live, leaked) of block `b`, which is all the count invariant looks at; every memory
primitive changes it at one point (`setAt`).  The slot table is a list of (slot, handle) pairs: `ownersL`, `lookupL`,
`delL`, `setL` are `owners`, `lookup`, `State.del`, `State.set` on it; a table with distinct keys that holds `(i, h)` is
`l₁ ++ (i, h) :: l₂` with nothing else under `i` (`slots_split`), which is how owners are counted after `delL` / `setL`.
Last, what the handle functions do to `cv` and to the block a handle refers to.
-/
namespace M1

/-! ## the core view of memory -/

abbrev Core := Nat × Bool × Bool

def Block.core (k : Block) : Core := (k.count, k.live, k.leaked)

def cv (m : Mem) (b : Nat) : Option Core := (m.blocks[b]?).map Block.core

def setAt (c : Nat → Option Core) (b : Nat) (v : Option Core) : Nat → Option Core :=
  fun j => if j = b then v else c j

@[simp] theorem setAt_same (c : Nat → Option Core) (b : Nat) (v : Option Core) : setAt c b v b = v := by
  simp [setAt]

theorem setAt_ne (c : Nat → Option Core) {b j : Nat} (v : Option Core) (h : j ≠ b) : setAt c b v j = c j := by
  simp [setAt, h]

theorem setAt_apply (c : Nat → Option Core) (b j : Nat) (v : Option Core) :
    setAt c b v j = if j = b then v else c j := rfl

theorem setAt_comm (c : Nat → Option Core) {a b : Nat} (v w : Option Core) (h : a ≠ b) :
    setAt (setAt c a v) b w = setAt (setAt c b w) a v := by
  funext j
  by_cases h1 : j = b
  · subst h1; simp only [setAt, if_true, if_neg (Ne.symm h)]
  · simp only [setAt, if_neg h1]

theorem setAt_self (c : Nat → Option Core) (b : Nat) : setAt c b (c b) = c :=
  funext fun _ => ite_eq_right_iff.2 fun h => h ▸ rfl

theorem setAt_map_none {c : Nat → Option Core} {b : Nat} (g : Core → Core) (h : c b = none) :
    setAt c b ((c b).map g) = c := by
  have := setAt_self c b
  rw [h] at this ⊢; exact this

def incC : Core → Core := fun c => (c.1 + 1, c.2.1, c.2.2)
/-- `drop_inner` on the core -/
def decC : Core → Core := fun c => if c.1 = 1 then (0, false, c.2.2) else (c.1 - 1, c.2.1, c.2.2)
def deadC : Core → Core := fun c => (0, false, c.2.2)

theorem cv_eq_none_iff (m : Mem) (b : Nat) : cv m b = none ↔ m.blocks.length ≤ b := by
  simp [cv]

theorem cv_isSome_iff (m : Mem) (b : Nat) : (cv m b).isSome = true ↔ b < m.blocks.length := by
  simp [cv]

theorem cv_length (m : Mem) : cv m m.blocks.length = none := by
  simp [cv]

theorem cv_eq_some {m : Mem} {b : Nat} {c : Core} (h : cv m b = some c) :
    ∃ k, m.blocks[b]? = some k ∧ k.core = c :=
  Option.map_eq_some_iff.1 h

theorem cv_of_get {m : Mem} {b : Nat} {k : Block} (h : m.blocks[b]? = some k) :
    cv m b = some (k.count, k.live, k.leaked) :=
  congrArg (Option.map Block.core) h

theorem cv_upd (m : Mem) (b : Nat) (f : Block → Block) (g : Core → Core)
    (hfg : ∀ k, (f k).core = g k.core) :
    cv (m.upd b f) = setAt (cv m) b ((cv m b).map g) := by
  funext j
  simp only [cv, Mem.upd, List.getElem?_modify, setAt]
  by_cases h : j = b
  · subst h
    cases m.blocks[j]? <;> simp [hfg]
  · have h' : ¬ b = j := fun e => h e.symm
    cases m.blocks[j]? <;> simp [h, h']

theorem cv_upd_content (m : Mem) (b : Nat) (f : Block → Block) (hf : ∀ k, (f k).core = k.core) :
    cv (m.upd b f) = cv m := by
  rw [cv_upd m b f id hf, Option.map_id_fun, id, setAt_self]

@[simp] theorem length_upd (m : Mem) (b : Nat) (f : Block → Block) :
    (m.upd b f).blocks.length = m.blocks.length := by
  simp [Mem.upd]

@[simp] theorem cv_emit (m : Mem) (es : List Event) : cv (m.emit es) = cv m := rfl

@[simp] theorem length_emit (m : Mem) (es : List Event) : (m.emit es).blocks.length = m.blocks.length := rfl

theorem cv_incr (m : Mem) (b : Nat) : cv (incr m b) = setAt (cv m) b ((cv m b).map incC) :=
  cv_upd m b _ incC (fun _ => rfl)

@[simp] theorem length_incr (m : Mem) (b : Nat) : (incr m b).blocks.length = m.blocks.length := by
  simp [incr]

@[simp] theorem length_leak (m : Mem) (b : Nat) : (m.leak b).blocks.length = m.blocks.length := by
  simp [Mem.leak]

theorem cv_decr (m : Mem) (b : Nat) (t : Ty) (len : Nat) :
    cv (decr m b t len) = setAt (cv m) b ((cv m b).map decC) := by
  unfold decr
  split
  · rename_i hn
    exact (setAt_map_none _ (congrArg (Option.map Block.core) hn)).symm
  · rename_i k hk
    have hc : cv m b = some k.core := congrArg (Option.map Block.core) hk
    split
    · rename_i h1
      rw [cv_emit, cv_upd m b _ deadC (fun _ => rfl), hc]
      simp [decC, deadC, Block.core, h1]
    · rename_i h1
      rw [cv_upd m b _ (fun c => (c.1 - 1, c.2.1, c.2.2)) (fun _ => rfl), hc]
      simp [decC, Block.core, h1]

@[simp] theorem length_decr (m : Mem) (b : Nat) (t : Ty) (len : Nat) :
    (decr m b t len).blocks.length = m.blocks.length := by
  unfold decr
  split
  · rfl
  · split <;> simp

theorem getElem?_concat_ne {α : Type} {l : List α} {a : α} {j : Nat} (h : j ≠ l.length) : (l ++ [a])[j]? = l[j]? := by
  rcases Nat.lt_or_gt_of_ne h with h | h
  · exact List.getElem?_append_left h
  · exact (List.getElem?_eq_none (by rw [List.length_append]; exact h)).trans (List.getElem?_eq_none (Nat.le_of_lt h)).symm

theorem cv_append (m : Mem) (k : Block) (log : List Event) (nc : Nat) :
    cv ⟨m.blocks ++ [k], log, nc⟩ = setAt (cv m) m.blocks.length (some k.core) := by
  funext j
  simp only [cv, setAt]
  by_cases h : j = m.blocks.length
  · subst h; simp
  · rw [if_neg h, getElem?_concat_ne h]

theorem cv_allocBlock (m : Mem) (lay : LY.Layout) (hdr : Option Item) (rl : Option Nat)
    (el : List (Option Item)) :
    cv (allocBlock m lay hdr rl el).1 = setAt (cv m) m.blocks.length (some (1, true, false)) :=
  cv_append ..

@[simp] theorem allocBlock_snd (m : Mem) (lay : LY.Layout) (hdr : Option Item) (rl : Option Nat)
    (el : List (Option Item)) : (allocBlock m lay hdr rl el).2 = m.blocks.length := rfl

@[simp] theorem length_allocBlock (m : Mem) (lay : LY.Layout) (hdr : Option Item) (rl : Option Nat)
    (el : List (Option Item)) : (allocBlock m lay hdr rl el).1.blocks.length = m.blocks.length + 1 := by
  simp [allocBlock]

theorem cv_writeVal (m : Mem) (b v : Nat) : cv (writeVal m b v) = cv m := by
  unfold writeVal
  apply cv_upd_content
  intro k
  split
  · rfl
  · split <;> rfl

@[simp] theorem length_writeVal (m : Mem) (b v : Nat) : (writeVal m b v).blocks.length = m.blocks.length :=
  length_upd ..

theorem cv_cloneValue (m : Mem) (b : Nat) : cv (cloneValue m b).1 = cv m := by
  unfold cloneValue
  split <;> rfl

theorem cloneValue_blocks (m : Mem) (b : Nat) : (cloneValue m b).1.blocks = m.blocks := by
  unfold cloneValue; split <;> rfl

@[simp] theorem length_cloneValue (m : Mem) (b : Nat) : (cloneValue m b).1.blocks.length = m.blocks.length :=
  congrArg List.length (cloneValue_blocks m b)

/-! ## the slot table -/

abbrev Slots := List (Nat × HV)

def ownersL (sl : Slots) (b : Nat) : Nat := sl.countP (fun e => e.2.blk == b)
def lookupL (sl : Slots) (i : Nat) : Option HV := (sl.find? (·.1 == i)).map (·.2)
def delL (sl : Slots) (i : Nat) : Slots := sl.filter (·.1 != i)
def setL (sl : Slots) (i : Nat) (h : HV) : Slots := sl.map fun e => if e.1 == i then (i, h) else e

theorem owners_eq (s : State) (b : Nat) : owners s b = ownersL s.slots b := rfl
theorem lookup_eq (s : State) (i : Nat) : lookup s i = lookupL s.slots i := rfl
theorem del_slots (s : State) (m : Mem) (i : Nat) : (s.del m i).slots = delL s.slots i := rfl
theorem set_slots (s : State) (m : Mem) (i : Nat) (h : HV) : (s.set m i h).slots = setL s.slots i h := rfl
theorem put_slots (s : State) (m : Mem) (i : Nat) (h : HV) : (s.put m i h).slots = (i, h) :: s.slots := rfl

theorem ownersL_cons (e : Nat × HV) (sl : Slots) (b : Nat) :
    ownersL (e :: sl) b = ownersL sl b + if e.2.blk = b then 1 else 0 := by
  simp [ownersL, List.countP_cons]

@[simp] theorem ownersL_nil (b : Nat) : ownersL [] b = 0 := rfl

theorem lookupL_none {sl : Slots} {i : Nat} : lookupL sl i = none ↔ ∀ e ∈ sl, e.1 ≠ i := by
  simp only [lookupL, Option.map_eq_none_iff, List.find?_eq_none, beq_iff_eq, ne_eq]

theorem lookupL_mem {sl : Slots} {i : Nat} {h : HV} (hl : lookupL sl i = some h) : (i, h) ∈ sl := by
  simp only [lookupL, Option.map_eq_some_iff] at hl
  obtain ⟨e, he, rfl⟩ := hl
  have hi := List.find?_some he
  obtain rfl : e.1 = i := beq_iff_eq.1 hi
  exact List.mem_of_find?_eq_some he

theorem delL_of_fresh {sl : Slots} {i : Nat} (h : ∀ e ∈ sl, e.1 ≠ i) : delL sl i = sl := by
  simp only [delL, List.filter_eq_self]
  intro e he; simp [h e he]

theorem mem_delL {sl : Slots} {i : Nat} {e : Nat × HV} : e ∈ delL sl i ↔ e ∈ sl ∧ e.1 ≠ i := by
  simp [delL]

theorem keys_delL {sl : Slots} (hk : (sl.map (·.1)).Nodup) (i : Nat) : ((delL sl i).map (·.1)).Nodup :=
  List.Nodup.sublist (List.Sublist.map _ List.filter_sublist) hk

theorem keys_setL (sl : Slots) (i : Nat) (h : HV) : (setL sl i h).map (·.1) = sl.map (·.1) := by
  simp only [setL, List.map_map]
  apply List.map_congr_left
  intro e _
  by_cases he : e.1 = i <;> simp [he]

theorem mem_setL {sl : Slots} {i : Nat} {h : HV} {e : Nat × HV} (he : e ∈ setL sl i h) :
    (e ∈ sl ∧ e.1 ≠ i) ∨ (e = (i, h) ∧ ∃ x ∈ sl, x.1 = i) := by
  simp only [setL, List.mem_map] at he
  obtain ⟨x, hx, rfl⟩ := he
  by_cases hxi : x.1 = i
  · right; simp only [hxi, beq_self_eq_true, if_true, true_and]; exact ⟨x, hx, hxi⟩
  · left; simp [hxi, hx]

theorem mem_setL_of_ne {sl : Slots} {i : Nat} {h : HV} {e : Nat × HV} (he : e ∈ sl) (hne : e.1 ≠ i) :
    e ∈ setL sl i h := by
  simp only [setL, List.mem_map]
  exact ⟨e, he, by simp [hne]⟩

theorem mem_setL_new {sl : Slots} {i : Nat} {h h0 : HV} (hm : (i, h0) ∈ sl) : (i, h) ∈ setL sl i h := by
  simp only [setL, List.mem_map]
  exact ⟨(i, h0), hm, by simp⟩

theorem slots_split {sl : Slots} (hk : (sl.map (·.1)).Nodup) {i : Nat} {h : HV} (hm : (i, h) ∈ sl) :
    ∃ l₁ l₂, sl = l₁ ++ (i, h) :: l₂ ∧ (∀ e ∈ l₁, e.1 ≠ i) ∧ ∀ e ∈ l₂, e.1 ≠ i := by
  obtain ⟨l₁, l₂, rfl⟩ := List.append_of_mem hm
  rw [List.map_append, List.map_cons, List.nodup_append, List.nodup_cons] at hk
  exact ⟨l₁, l₂, rfl, fun e he hei => hk.2.2 _ (List.mem_map_of_mem he) i (List.mem_cons_self ..) hei,
    fun e he hei => hk.2.1.1 (List.mem_map.2 ⟨e, he, hei⟩)⟩

theorem setL_of_fresh {sl : Slots} {i : Nat} (h : HV) (hf : ∀ e ∈ sl, e.1 ≠ i) : setL sl i h = sl :=
  (List.map_congr_left fun e he => if_neg fun hb => hf e he (beq_iff_eq.1 hb)).trans (List.map_id sl)

theorem delL_append (l₁ l₂ : Slots) (i : Nat) : delL (l₁ ++ l₂) i = delL l₁ i ++ delL l₂ i := List.filter_append ..

theorem delL_cons_self (sl : Slots) (i : Nat) (h : HV) : delL ((i, h) :: sl) i = delL sl i :=
  List.filter_cons_of_neg (by simp)

theorem setL_append (l₁ l₂ : Slots) (i : Nat) (h : HV) : setL (l₁ ++ l₂) i h = setL l₁ i h ++ setL l₂ i h :=
  List.map_append ..

theorem setL_cons_self (sl : Slots) (i : Nat) (h h' : HV) : setL ((i, h) :: sl) i h' = (i, h') :: setL sl i h' :=
  congrArg (· :: _) (if_pos (beq_self_eq_true i))

theorem mem_lookupL {sl : Slots} (hk : (sl.map (·.1)).Nodup) {i : Nat} {h : HV} (hm : (i, h) ∈ sl) :
    lookupL sl i = some h := by
  obtain ⟨l₁, l₂, rfl, h₁, _⟩ := slots_split hk hm
  have : l₁.find? (·.1 == i) = none := List.find?_eq_none.2 fun e he hb => h₁ e he (beq_iff_eq.1 hb)
  simp only [lookupL, List.find?_append, this, Option.none_or, List.find?_cons_of_pos, beq_self_eq_true, Option.map_some]

theorem ownersL_del {sl : Slots} (hk : (sl.map (·.1)).Nodup) {i : Nat} {h : HV} (hm : (i, h) ∈ sl) (b : Nat) :
    ownersL (delL sl i) b + (if h.blk = b then 1 else 0) = ownersL sl b := by
  obtain ⟨l₁, l₂, rfl, h₁, h₂⟩ := slots_split hk hm
  rw [delL_append, delL_cons_self, delL_of_fresh h₁, delL_of_fresh h₂]
  simp only [ownersL, List.countP_append, List.countP_cons, beq_iff_eq]
  exact Nat.add_assoc ..

theorem ownersL_set {sl : Slots} (hk : (sl.map (·.1)).Nodup) {i : Nat} {h h' : HV} (hm : (i, h) ∈ sl) (b : Nat) :
    ownersL (setL sl i h') b + (if h.blk = b then 1 else 0) = ownersL sl b + (if h'.blk = b then 1 else 0) := by
  obtain ⟨l₁, l₂, rfl, h₁, h₂⟩ := slots_split hk hm
  rw [setL_append, setL_cons_self, setL_of_fresh h' h₁, setL_of_fresh h' h₂]
  simp only [ownersL, List.countP_append, List.countP_cons, beq_iff_eq, ← Nat.add_assoc]
  exact Nat.add_right_comm ..

theorem ownersL_pos {sl : Slots} {e : Nat × HV} (he : e ∈ sl) : 0 < ownersL sl e.2.blk := by
  simp only [ownersL, List.countP_pos_iff]
  exact ⟨e, he, by simp⟩

theorem ownersL_eq_zero {sl : Slots} {b : Nat} (h : ∀ e ∈ sl, e.2.blk ≠ b) : ownersL sl b = 0 := by
  simp only [ownersL, List.countP_eq_zero]
  intro e he; simp [h e he]

theorem countP_le_one_unique {α : Type} {p : α → Bool} {l : List α} (hc : l.countP p ≤ 1) {i j : Nat} {x y : α}
    (hx : l[i]? = some x) (hpx : p x = true) (hy : l[j]? = some y) (hpy : p y = true) : i = j := by
  -- if `i < j`, `x` is among the first `i + 1` elements and `y` among the others
  have key : ∀ {i j : Nat} {x y : α}, l[i]? = some x → p x = true → l[j]? = some y → p y = true → ¬i < j := by
    intro i j x y hx hpx hy hpy hij
    rw [← List.take_append_drop (i + 1) l, List.countP_append] at hc
    have h1 : 0 < (l.take (i + 1)).countP p :=
      List.countP_pos_iff.2 ⟨x, List.mem_of_getElem? ((List.getElem?_take_of_lt (Nat.lt_succ_self i)).trans hx), hpx⟩
    have h2 : 0 < (l.drop (i + 1)).countP p :=
      List.countP_pos_iff.2
        ⟨y, List.mem_of_getElem? (i := j - (i + 1))
          (List.getElem?_drop.trans ((congrArg (l[·]?) (Nat.add_sub_of_le hij)).trans hy)), hpy⟩
    exact Nat.not_le_of_gt (Nat.add_le_add h1 h2) hc
  exact Nat.le_antisymm (Nat.not_lt.1 (key hy hpy hx hpx)) (Nat.not_lt.1 (key hx hpx hy hpy))

theorem ownersL_one_unique {sl : Slots} {b : Nat} (h1 : ownersL sl b = 1) {e e' : Nat × HV}
    (he : e ∈ sl) (hb : e.2.blk = b) (he' : e' ∈ sl) (hb' : e'.2.blk = b) : e = e' := by
  obtain ⟨i, hi⟩ := List.mem_iff_getElem?.1 he
  obtain ⟨j, hj⟩ := List.mem_iff_getElem?.1 he'
  cases countP_le_one_unique (Nat.le_of_eq h1) hi (beq_iff_eq.2 hb) hj (beq_iff_eq.2 hb')
  exact Option.some.inj (hi.symm.trans hj)

theorem lookupL_cons_ne {sl : Slots} {i j : Nat} {h : HV} (hne : j ≠ i) :
    lookupL ((j, h) :: sl) i = lookupL sl i := by
  simp [lookupL, hne]

theorem lookupL_cons_self {sl : Slots} {i : Nat} {h : HV} : lookupL ((i, h) :: sl) i = some h := by
  simp [lookupL]

theorem lookupL_setL (sl : Slots) (i j : Nat) (h' : HV) :
    lookupL (setL sl i h') j = (lookupL sl j).map fun x => if j = i then h' else x := by
  simp only [lookupL, setL, List.find?_map, Option.map_map]
  have : ((fun e : Nat × HV => e.1 == j) ∘ fun e => if e.1 == i then (i, h') else e) = fun e => e.1 == j := by
    funext e; by_cases he : e.1 = i <;> simp [he]
  rw [this]
  cases hf : sl.find? (fun e => e.1 == j) with
  | none => rfl
  | some e =>
    have := List.find?_some hf
    simp only [beq_iff_eq] at this
    subst this
    by_cases he : e.1 = i <;> simp [he]

theorem lookupL_setL_ne (sl : Slots) {i src : Nat} (h' : HV) (hne : i ≠ src) :
    lookupL (setL sl src h') i = lookupL sl i := by
  simp only [lookupL_setL, if_neg hne, Option.map_id']

theorem lookupL_setL_self (sl : Slots) (i : Nat) (h' : HV) :
    lookupL (setL sl i h') i = (lookupL sl i).map fun _ => h' := by
  simp only [lookupL_setL, if_true]

theorem lookupL_delL (sl : Slots) (i j : Nat) : lookupL (delL sl i) j = if j = i then none else lookupL sl j := by
  simp only [lookupL, delL, List.find?_filter]
  split
  · rename_i h; subst h
    rw [List.find?_eq_none.2 fun e _ => by simp]; rfl
  · rename_i h
    have : (fun a : Nat × HV => decide ((a.1 != i) = true ∧ (a.1 == j) = true)) = fun a => a.1 == j := by
      funext a; by_cases ha : a.1 = j <;> simp [ha, h]
    rw [this]

/-! ## what the handle functions do to the count words and to the block a handle refers to -/

theorem loadCount_of_cv {m : Mem} {b n : Nat} {lv lk : Bool} (h : cv m b = some (n, lv, lk)) :
    loadCount m b = n := by
  obtain ⟨k, hk, hc⟩ := cv_eq_some h
  cases hc
  simp [loadCount, hk]

theorem is_unique_iff_loadCount (m : Mem) (a : HV) : Arc.is_unique m a = true ↔ loadCount m a.blk = 1 := by
  simp [Arc.is_unique, Arc.count]

@[simp] theorem asArc_blk (m : Mem) (h : HV) : (asArc m h).blk = h.blk := by
  unfold asArc; cases h.kind <;> rfl

theorem Arc.drop_eq (m : Mem) (a : HV) : Arc.drop m a = decr m a.blk a.ty (viewLen m a) := rfl

theorem cloneHandle_spec {m m' : Mem} {h c : HV} (hc : cloneHandle m h = some (m', c)) :
    m' = incr m h.blk ∧ c.blk = h.blk ∧ c.kind ≠ .uniq ∧ h.kind ≠ .uniq := by
  obtain ⟨k, t, b, o, l⟩ := h
  cases k <;> cases hc <;> exact ⟨rfl, rfl, nofun, nofun⟩

theorem cv_into_inner (m : Mem) (u : HV) :
    cv (UniqueArc.into_inner m u).1 = setAt (cv m) u.blk ((cv m u.blk).map deadC) := by
  unfold UniqueArc.into_inner
  split
  · rename_i hn
    exact (setAt_map_none _ (congrArg (Option.map Block.core) hn)).symm
  · exact cv_upd m u.blk _ deadC (fun _ => rfl)

theorem cv_arc_new (m : Mem) (t : Ty) (v : Option Item) :
    cv (Arc.new m t v).1 = setAt (cv m) m.blocks.length (some (1, true, false)) := by
  unfold Arc.new
  exact cv_allocBlock ..

theorem arc_new_get (m : Mem) (t : Ty) (v : Option Item) {j : Nat} (hj : j < m.blocks.length) :
    (Arc.new m t v).1.blocks[j]? = m.blocks[j]? := by
  show (m.blocks ++ [_])[j]? = _
  exact List.getElem?_append_left hj

@[simp] theorem arc_new_blk (m : Mem) (t : Ty) (v : Option Item) : (Arc.new m t v).2.blk = m.blocks.length := rfl
@[simp] theorem arc_new_kind (m : Mem) (t : Ty) (v : Option Item) : (Arc.new m t v).2.kind = .arc := rfl

end M1
