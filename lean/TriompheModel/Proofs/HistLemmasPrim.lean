import TriompheModel.Proofs.HistLemmas
/-!
# The count invariant in pointwise form and its primitive transitions

`InvC c sl` is the invariant stated over the core view `c` of memory and the slot list `sl`.  Two lemmas check its four
clauses: `update` (the core of one block and the slot table change) and `reslot` (the table changes, every block keeps
its number of owners).  The transitions of which every op is made follow from them: acquire, release, allocate-and-put,
allocate-junk; retag, swap; redirect and replace (a release followed by one of the others).
-/
namespace M1

/-- what the invariant demands of one block whose core is `v` and which has `n` owners -/
def Good (v : Option Core) (n : Nat) : Prop :=
  ∀ c lv lk, v = some (c, lv, lk) →
    (lv = true → lk = false → c = n ∧ 0 < c) ∧ (lv = false → n = 0) ∧ (lk = true → n = 0)

theorem Good_none (n : Nat) : Good none n := by
  intro c lv lk h; cases h

theorem Good_live {c n : Nat} (h1 : c = n) (h2 : 0 < c) : Good (some (c, true, false)) n := by
  intro c' lv lk h
  cases h
  exact ⟨fun _ _ => ⟨h1, h2⟩, nofun, nofun⟩

theorem Good_junk {c : Nat} {lv lk : Bool} (h : lv = false ∨ lk = true) : Good (some (c, lv, lk)) 0 := by
  intro c' lv' lk' h'
  cases h'
  exact ⟨fun h1 h2 => h.elim (fun e => nomatch h1.symm.trans e) (fun e => nomatch h2.symm.trans e), fun _ => rfl, fun _ => rfl⟩

theorem Good_owned {v : Option Core} {n : Nat} (hg : Good v n) (hn : 0 < n) (hv : v ≠ none) :
    v = some (n, true, false) := by
  cases v with
  | none => exact absurd rfl hv
  | some x =>
    obtain ⟨c, lv, lk⟩ := x
    obtain ⟨h1, h2, h3⟩ := hg c lv lk rfl
    cases lv with
    | false => exact absurd (h2 rfl) (Nat.ne_of_gt hn)
    | true =>
      cases lk with
      | true => exact absurd (h3 rfl) (Nat.ne_of_gt hn)
      | false => rw [(h1 rfl rfl).1]

structure InvC (c : Nat → Option Core) (sl : Slots) : Prop where
  good : ∀ b, Good (c b) (ownersL sl b)
  inb : ∀ e, e ∈ sl → c e.2.blk ≠ none
  keys : (sl.map (·.1)).Nodup
  uniq : ∀ e, e ∈ sl → e.2.kind = .uniq → ownersL sl e.2.blk = 1

namespace InvC
variable {c : Nat → Option Core} {sl : Slots}

theorem owned (hi : InvC c sl) {e : Nat × HV} (he : e ∈ sl) :
    c e.2.blk = some (ownersL sl e.2.blk, true, false) :=
  Good_owned (hi.good _) (ownersL_pos he) (hi.inb e he)

theorem fresh_unowned (hi : InvC c sl) {n : Nat} (hn : c n = none) : ∀ e ∈ sl, e.2.blk ≠ n := by
  intro e he heq
  exact hi.inb e he (heq ▸ hn)

theorem init : InvC (fun _ => none) [] where
  good := fun _ => Good_none _
  inb := fun e he => by cases he
  keys := by simp
  uniq := fun e he => by cases he

theorem owned_ne_none (hi : InvC c sl) {b : Nat} (hb : 0 < ownersL sl b) : c b ≠ none := by
  obtain ⟨e, he, h⟩ := List.countP_pos_iff.1 hb
  exact beq_iff_eq.1 h ▸ hi.inb e he

theorem update (hi : InvC c sl) {sl' : Slots} {b : Nat} {v : Option Core} (hk : (sl'.map (·.1)).Nodup)
    (how : ∀ j, j ≠ b → ownersL sl' j = ownersL sl j) (hg : Good v (ownersL sl' b))
    (hin : v = none → ∀ e ∈ sl', e.2.blk ≠ b)
    (hu : ∀ e ∈ sl', e.2.kind = .uniq → ownersL sl' e.2.blk = 1) : InvC (setAt c b v) sl' where
  good := fun j => by
    by_cases hj : j = b
    · subst hj; rw [setAt_same]; exact hg
    · rw [setAt_ne _ _ hj, how j hj]; exact hi.good j
  inb := fun e he => by
    by_cases hj : e.2.blk = b
    · rw [hj, setAt_same]; exact fun hv => hin hv e he hj
    · rw [setAt_ne _ _ hj]; exact hi.owned_ne_none (how _ hj ▸ ownersL_pos he)
  keys := hk
  uniq := hu

theorem keys_cons {dst : Nat} {h : HV} (hi : InvC c sl) (hdst : ∀ e ∈ sl, e.1 ≠ dst) :
    (((dst, h) :: sl).map (·.1)).Nodup := by
  simp only [List.map_cons, List.nodup_cons, List.mem_map, not_exists, not_and]
  exact ⟨fun x hx hxe => hdst x hx hxe, hi.keys⟩

/-- `fetch_add` on a block some non-unique slot already refers to, plus one new (non-unique) owner -/
theorem acquire (hi : InvC c sl) {dst b : Nat} {h : HV} {e0 : Nat × HV}
    (hdst : ∀ e ∈ sl, e.1 ≠ dst) (he0 : e0 ∈ sl) (hb0 : e0.2.blk = b) (hk0 : e0.2.kind ≠ .uniq)
    (hb : h.blk = b) (hk : h.kind ≠ .uniq) :
    InvC (setAt c b ((c b).map incC)) ((dst, h) :: sl) := by
  have hcb : c b = some (ownersL sl b, true, false) := hb0 ▸ hi.owned he0
  have hcons : ∀ j, ownersL ((dst, h) :: sl) j = ownersL sl j + if b = j then 1 else 0 := fun j => hb ▸ ownersL_cons ..
  refine hi.update (hi.keys_cons hdst) (fun j hj => by rw [hcons, if_neg (Ne.symm hj)]; rfl) ?_
    (fun hv => by rw [hcb] at hv; cases hv) fun e he hu => ?_
  · rw [hcons, if_pos rfl, hcb]; exact Good_live rfl (Nat.succ_pos _)
  · rcases List.mem_cons.1 he with rfl | he
    · exact absurd hu hk
    · have h1 := hi.uniq e he hu
      -- a `UniqueArc`'s block is not the one acquired: `e0` is another, non-unique owner of that
      rw [hcons, h1, if_neg]
      intro heq
      have := ownersL_one_unique h1 he rfl he0 (hb0.trans heq)
      subst this
      exact hk0 hu

/-- `drop_inner` on the block of a slot, and that slot emptied -/
theorem release (hi : InvC c sl) {src : Nat} {h : HV} (hm : (src, h) ∈ sl) :
    InvC (setAt c h.blk ((c h.blk).map decC)) (delL sl src) := by
  have hcb : c h.blk = some (ownersL sl h.blk, true, false) := hi.owned hm
  have hdel := ownersL_del hi.keys hm
  have hne : ∀ j, j ≠ h.blk → ownersL (delL sl src) j = ownersL sl j := fun j hj => by
    rw [← hdel j, if_neg (Ne.symm hj)]; rfl
  refine hi.update (keys_delL hi.keys src) hne ?_ (fun hv => by rw [hcb] at hv; cases hv) fun e he hu => ?_
  · -- `n + 1` owners before, `n` after: the block dies iff `n = 0`
    have hd : ownersL (delL sl src) h.blk + 1 = ownersL sl h.blk := by rw [← hdel h.blk, if_pos rfl]
    rw [hcb, Option.map_some, ← hd]
    cases ownersL (delL sl src) h.blk with
    | zero => exact Good_junk (.inl rfl)
    | succ n => exact Good_live rfl (Nat.succ_pos n)
  · obtain ⟨he', hne'⟩ := mem_delL.1 he
    have h1 := hi.uniq e he' hu
    -- a `UniqueArc`'s block is not the one released, or it would be the slot emptied
    rw [hne _ fun heq => hne' ?_]; exact h1
    exact congrArg Prod.fst (ownersL_one_unique h1 he' rfl hm heq.symm)

theorem reslot (hi : InvC c sl) {sl' : Slots} (hk : (sl'.map (·.1)).Nodup) (how : ∀ b, ownersL sl' b = ownersL sl b)
    (hu : ∀ e ∈ sl', e.2.kind = .uniq → ownersL sl e.2.blk = 1) : InvC c sl' where
  good := fun b => how b ▸ hi.good b
  inb := fun _ he => hi.owned_ne_none (how _ ▸ ownersL_pos he)
  keys := hk
  uniq := fun e he hk' => (how _).trans (hu e he hk')

theorem retag (hi : InvC c sl) {src : Nat} {h h' : HV} (hm : (src, h) ∈ sl) (hb : h'.blk = h.blk)
    (hu : h'.kind = .uniq → ownersL sl h.blk = 1) :
    InvC c (setL sl src h') := by
  refine hi.reslot (by rw [keys_setL]; exact hi.keys) (fun j => ?_) fun e he hk => ?_
  · have := ownersL_set (h' := h') hi.keys hm j
    rw [hb] at this; exact Nat.add_right_cancel this
  · rcases mem_setL he with ⟨he', _⟩ | ⟨rfl, _⟩
    · exact hi.uniq e he' hk
    · simp only [hb]; exact hu hk

theorem alloc_put (hi : InvC c sl) {dst n : Nat} {h : HV} (hn : c n = none)
    (hdst : ∀ e ∈ sl, e.1 ≠ dst) (hb : h.blk = n) :
    InvC (setAt c n (some (1, true, false))) ((dst, h) :: sl) := by
  have hfr := hi.fresh_unowned hn
  have hcons : ∀ j, ownersL ((dst, h) :: sl) j = ownersL sl j + if n = j then 1 else 0 := fun j => hb ▸ ownersL_cons ..
  refine hi.update (hi.keys_cons hdst) (fun j hj => by rw [hcons, if_neg (Ne.symm hj)]; rfl) ?_
    (fun hv => nomatch hv) fun e he hu => ?_
  · rw [hcons, if_pos rfl, ownersL_eq_zero hfr]; exact Good_live rfl Nat.one_pos
  · rw [hcons]
    rcases List.mem_cons.1 he with rfl | he
    · rw [ownersL_eq_zero (hb ▸ hfr), if_pos hb.symm]
    · rw [if_neg (Ne.symm (hfr e he)), hi.uniq e he hu]

theorem alloc_junk (hi : InvC c sl) {n x : Nat} {lv lk : Bool} (hn : c n = none)
    (hj : lv = false ∨ lk = true) :
    InvC (setAt c n (some (x, lv, lk))) sl :=
  hi.update hi.keys (fun _ _ => rfl) (ownersL_eq_zero (hi.fresh_unowned hn) ▸ Good_junk hj) (fun hv => nomatch hv) hi.uniq

/-- `*this = Arc::new(..)`: a fresh block, the slot's handle redirected to it, one `drop_inner` on
the block it referred to before -/
theorem redirect (hi : InvC c sl) {src n : Nat} {h h' : HV} (hm : (src, h) ∈ sl) (hn : c n = none)
    (hb : h'.blk = n) :
    InvC (setAt (setAt c n (some (1, true, false))) h.blk ((c h.blk).map decC)) (setL sl src h') := by
  have hne : h.blk ≠ n := hi.fresh_unowned hn _ hm
  -- the slot released, then filled again with a handle to the fresh block
  have h1 := (hi.release hm).alloc_put (dst := src) (h := h') (n := n) (by rw [setAt_ne _ _ (Ne.symm hne)]; exact hn)
    (fun e he => (mem_delL.1 he).2) hb
  rw [setAt_comm _ _ _ hne] at h1
  refine h1.reslot (by rw [keys_setL]; exact hi.keys) (fun j => ?_) fun e he hu => h1.uniq e ?_ hu
  · have h2 := ownersL_set (h' := h') hi.keys hm j
    rw [← ownersL_del hi.keys hm j, Nat.add_right_comm] at h2
    rw [ownersL_cons]; exact Nat.add_right_cancel h2
  · rcases mem_setL he with ⟨he', hne'⟩ | ⟨rfl, _⟩
    · exact List.mem_cons_of_mem _ (mem_delL.2 ⟨he', hne'⟩)
    · exact List.mem_cons_self ..

/-- `with_arc_mut(|a| *a = <thin taken out of slot k>)`: slot `k` emptied, slot `src` now refers to
`k`'s block, one `drop_inner` on the block `src` referred to before -/
theorem replace (hi : InvC c sl) {src k : Nat} {hs h2 h' : HV} (hms : (src, hs) ∈ sl)
    (hmk : (k, h2) ∈ sl) (hne : k ≠ src) (hb : h'.blk = h2.blk) (hk' : h'.kind ≠ .uniq) :
    InvC (setAt c hs.blk ((c hs.blk).map decC)) (setL (delL sl k) src h') := by
  have hkd := keys_delL hi.keys k
  have hms' : (src, hs) ∈ delL sl k := mem_delL.2 ⟨hms, fun e => hne e.symm⟩
  have hr := hi.release hms
  refine hr.reslot (by rw [keys_setL]; exact hkd) (fun j => ?_) fun e he hu => ?_
  · -- both tables have lost `hs`; the new one holds `h'` where the old one holds `h2`
    have h1 := ownersL_del hi.keys hmk j
    have h2' := ownersL_set (h' := h') hkd hms' j
    have h3 := ownersL_del hi.keys hms j
    rw [hb] at h2'
    exact Nat.add_right_cancel (h2'.trans (h1.trans h3.symm))
  · rcases mem_setL he with ⟨he', hne'⟩ | ⟨rfl, _⟩
    · exact hr.uniq e (mem_delL.2 ⟨(mem_delL.1 he').1, hne'⟩) hu
    · exact absurd hu hk'

theorem _root_.M1.ownersL_swap {sl : Slots} (hkeys : (sl.map (·.1)).Nodup) {src k : Nat} {hs h2 hk' hs' : HV}
    (hms : (src, hs) ∈ sl) (hmk : (k, h2) ∈ sl) (hne : k ≠ src) (hbk : hk'.blk = hs.blk)
    (hbs : hs'.blk = h2.blk) (j : Nat) :
    ownersL (setL (setL sl k hk') src hs') j = ownersL sl j := by
  have hk1 : ((setL sl k hk').map (·.1)).Nodup := by rw [keys_setL]; exact hkeys
  have hms' : (src, hs) ∈ setL sl k hk' := mem_setL_of_ne hms (fun e => hne e.symm)
  have h1 := ownersL_set (h' := hk') hkeys hmk j
  have h2' := ownersL_set (h' := hs') hk1 hms' j
  rw [hbk] at h1
  rw [hbs] at h2'
  exact Nat.add_right_cancel (h2'.trans h1)

/-- `with_arc_mut(|a| mem::swap(a, &mut <thin taken out of slot k>))`, the spare going back into
slot `k`: slots `k` and `src` exchange the blocks they refer to, no count changes -/
theorem swap (hi : InvC c sl) {src k : Nat} {hs h2 hk' hs' : HV} (hms : (src, hs) ∈ sl)
    (hmk : (k, h2) ∈ sl) (hne : k ≠ src) (hbk : hk'.blk = hs.blk) (hbs : hs'.blk = h2.blk)
    (hkk : hk'.kind ≠ .uniq) (hks : hs'.kind ≠ .uniq) :
    InvC c (setL (setL sl k hk') src hs') := by
  refine hi.reslot (by rw [keys_setL, keys_setL]; exact hi.keys) (ownersL_swap hi.keys hms hmk hne hbk hbs)
    fun e he hu => ?_
  rcases mem_setL he with ⟨he', _⟩ | ⟨rfl, _⟩
  · rcases mem_setL he' with ⟨he'', _⟩ | ⟨rfl, _⟩
    · exact hi.uniq e he'' hu
    · exact absurd hu hkk
  · exact absurd hu hks

end InvC

end M1
