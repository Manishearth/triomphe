import TriompheModel.Model.Ops
import TriompheModel.Proofs.Layout
/-!
# The constructors in closed form (C06 / C07)

`runCtor_eq`: a plain constructor, as one equation.  `runIterCtor_spec`: for EVERY memory, header, script (any `lens`,
any `hints`, any `panicAt`), profile flag and constructor, the result of `runIterCtor` has one of five explicit shapes
(`IterOut`); the property theorems of `Props/C06.lean` and `Props/C07Iter.lean` are read off that characterisation.
It rests on `core_spec` (the results of `from_header_and_iter`), that on `next_run`: one statement about every loop
over `next()`, of which `fillLoop` and `collectAll` are instances.
-/
namespace M1
open LY

/-! ## vocabulary used in the statements -/

def dropsOf (vs : List Item) : List Event := vs.map fun v => Event.drop v.id

def hdrDrops (h : Option Item) : List Event :=
  match h with
  | some x => [Event.drop x.id]
  | none => []

def added (m m' : Mem) : List Event := m'.log.drop m.log.length

def Event.dropId? : Event → Option Nat
  | .drop i => some i
  | _ => none

def dropIds (es : List Event) : List Nat := es.filterMap Event.dropId?

def Event.isDropUninit : Event → Bool
  | .dropUninit _ _ => true
  | _ => false

def Event.isDrop : Event → Bool
  | .drop _ => true
  | _ => false

def CtorRes.mem : CtorRes → Mem
  | .built m _ => m
  | .panicked m _ => m

def CtorRes.handle? : CtorRes → Option HV
  | .built _ h => some h
  | .panicked _ _ => none

def Ctor.takesValues : Ctor → Bool
  | .new _ | .newB _ | .fromBox _ | .uniqueNew _ | .fromVec _ | .hsFromVec _ _ | .hwlFromVec _ _ _ => true
  | _ => false

def Ctor.hdr : Ctor → Option Item
  | .hsFromVec h _ | .hwlFromVec h _ _ | .hsUninit h _ => some h
  | _ => none

def Ctor.vals : Ctor → List Item
  | .new v | .newB v | .fromBox v | .uniqueNew v => [v]
  | .fromVec vs | .hsFromVec _ vs | .hwlFromVec _ _ vs => vs
  | _ => []

def Ctor.recLen : Ctor → Option Nat
  | .hwlFromVec _ r _ => some r
  | _ => none

def Ctor.isSlice : Ctor → Bool
  | .fromVec _ | .hsFromVec _ _ | .hwlFromVec _ _ _
  | .newUninitSlice _ | .uniqueNewUninitSlice _ | .hsUninit _ _ => true
  | _ => false

/-- number of (unwritten) slots of an uninit constructor -/
def Ctor.slots : Ctor → Nat
  | .newUninit | .uniqueNewUninit => 1
  | .newUninitSlice n | .uniqueNewUninitSlice n | .hsUninit _ n => n
  | _ => 0

def IterCtor.hdrLay : IterCtor → Layout
  | .hsFromIter => trackedLay
  | .thinFromIter => Ty.hwl.hdrLay
  | .fromIter | .uniqueFromIter => unitLayout

/-- the header stored in the block (`FromIterator` has none: the argument is ignored) -/
def IterCtor.hdrOf : IterCtor → Option Item → Option Item
  | .hsFromIter, h | .thinFromIter, h => h
  | _, _ => none

def IterCtor.kind : IterCtor → Kind
  | .hsFromIter | .fromIter => .arc
  | .thinFromIter => .thin
  | .uniqueFromIter => .uniq

def IterCtor.ty : IterCtor → Ty
  | .hsFromIter => .hs
  | .thinFromIter => .hwl
  | .fromIter | .uniqueFromIter => .slice

/-- the length word stored in the block on success -/
def IterCtor.recOf : IterCtor → Nat → Option Nat
  | .thinFromIter, n => some n
  | _, _ => none

/-- the fat-pointer length of the returned handle (a ThinArc carries none) -/
def IterCtor.lenOf : IterCtor → Nat → Nat
  | .thinFromIter, _ => 0
  | _, n => n

/-! ## lists -/

theorem modify_length_append {α} (l : List α) (x : α) (f : α → α) :
    (l ++ [x]).modify l.length f = l ++ [f x] := by
  induction l with
  | nil => rfl
  | cons a l ih => simp [List.modify_succ_cons, ih]

theorem getElem?_modify_of_lt {α} (l : List α) (b j : Nat) (f : α → α) (h : j < b) :
    (l.modify b f)[j]? = l[j]? :=
  List.getElem?_modify_ne f l (by omega)

theorem nthOrLast_all {α} (l : List α) (i : Nat) (d : α) (h : ∀ x ∈ l, x = d) :
    nthOrLast l i d = d := by
  unfold nthOrLast
  split
  · next x hx => exact h x (List.mem_of_getElem? hx)
  · cases hl : l.getLast? with
    | none => rfl
    | some x => exact h x (List.mem_of_getLast? hl)

theorem nthOrLast_cons_zero {α} (a : α) (l : List α) (d : α) : nthOrLast (a :: l) 0 d = a := rfl

theorem drop_eq_cons_of_getElem? {α} {l : List α} {c : Nat} {v : α} (h : l[c]? = some v) :
    l.drop c = v :: l.drop (c + 1) := by
  obtain ⟨hc, rfl⟩ := List.getElem?_eq_some_iff.1 h
  exact List.drop_eq_getElem_cons hc

theorem mem_take_drop_some {α} (l : List α) (c n : Nat) :
    ∀ v, some v ∈ ((l.drop c).take n).map some → v ∈ l.take (c + n) := by
  intro v hv
  obtain ⟨w, hw, hwv⟩ := List.mem_map.1 hv
  cases hwv
  rw [List.take_drop] at hw
  exact List.mem_of_mem_drop hw

/-! ## the iterator -/

theorem next_cases (it : IterSt) :
    (it.sc.panicAt = some it.nextCalls ∧ it.next = (.panic, it)) ∨
    (∃ v, it.sc.items[it.nextCalls]? = some v ∧
      it.next = (.yield v, { it with nextCalls := it.nextCalls + 1 })) ∨
    (it.sc.items.length ≤ it.nextCalls ∧ it.next = (.done, { it with nextCalls := it.nextCalls + 1 })) := by
  unfold IterSt.next
  by_cases hp : it.sc.panicAt = some it.nextCalls
  · exact Or.inl ⟨hp, if_pos hp⟩
  · rw [if_neg hp]
    cases hv : it.sc.items[it.nextCalls]? with
    | some v => exact Or.inr (Or.inl ⟨v, rfl, rfl⟩)
    | none => exact Or.inr (Or.inr ⟨List.getElem?_eq_none_iff.1 hv, rfl⟩)

/-- `loop` is any function that calls `next()` at most `n` times, collects (the images under `g` of) the items yielded
and stops at the first `done` or panic; `Z`, `D`, `P` are what it returns, from the iterator and what it has collected,
when the calls are used up, at `done`, at a panic. -/
theorem next_run {β γ} (g : Item → γ) (Z D P : IterSt → List γ → β) (loop : Nat → IterSt → List γ → β)
    (h0 : ∀ it a, loop 0 it a = Z it a)
    (hs : ∀ n it a, loop (n + 1) it a = match it.next with
      | (.yield v, it') => loop n it' (a ++ [g v])
      | (.done, it') => D it' a
      | (.panic, it') => P it' a) (n : Nat) (it : IterSt) (a : List γ) :
    ∃ j, j ≤ n ∧ j ≤ it.sc.items.length - it.nextCalls ∧
      let a' := a ++ ((it.sc.items.drop it.nextCalls).take j).map g
      (j = n ∧ loop n it a = Z { it with nextCalls := it.nextCalls + j } a') ∨
      (j < n ∧ it.sc.items.length ≤ it.nextCalls + j ∧
        loop n it a = D { it with nextCalls := it.nextCalls + j + 1 } a') ∨
      (j < n ∧ it.sc.panicAt = some (it.nextCalls + j) ∧
        loop n it a = P { it with nextCalls := it.nextCalls + j } a') := by
  induction n generalizing it a with
  | zero => exact ⟨0, Nat.le_refl _, Nat.zero_le _, Or.inl ⟨rfl, by simp [h0]⟩⟩
  | succ n ih =>
    rcases next_cases it with ⟨hp, e⟩ | ⟨v, hv, e⟩ | ⟨hd, e⟩
    · exact ⟨0, Nat.zero_le _, Nat.zero_le _, Or.inr (Or.inr ⟨Nat.succ_pos _, hp, by simp [hs, e]⟩)⟩
    · obtain ⟨j, hj, hl, h⟩ := ih { it with nextCalls := it.nextCalls + 1 } (a ++ [g v])
      have hlt := (List.getElem?_eq_some_iff.1 hv).1
      refine ⟨j + 1, Nat.succ_le_succ hj, by simp only at hl; omega, ?_⟩
      simp only [hs, e, drop_eq_cons_of_getElem? hv, List.take_succ_cons, List.map_cons,
        Nat.add_lt_add_iff_right, Nat.add_right_cancel_iff] at h ⊢
      simpa only [List.append_assoc, List.singleton_append, Nat.add_assoc, Nat.add_comm 1] using h
    · exact ⟨0, Nat.zero_le _, Nat.zero_le _, Or.inr (Or.inl ⟨Nat.succ_pos _, hd, by simp [hs, e]⟩)⟩

theorem fillLoop_run (n : Nat) (it : IterSt) (acc : List (Option Item)) :
    ∃ j, j ≤ n ∧ j ≤ it.sc.items.length - it.nextCalls ∧
      let acc' := acc ++ ((it.sc.items.drop it.nextCalls).take j).map some
      (j = n ∧ fillLoop n it acc = (.ok acc', { it with nextCalls := it.nextCalls + j })) ∨
      (j < n ∧ it.sc.items.length ≤ it.nextCalls + j ∧
        fillLoop n it acc = (.error "over-reported", { it with nextCalls := it.nextCalls + j + 1 })) ∨
      (j < n ∧ it.sc.panicAt = some (it.nextCalls + j) ∧
        fillLoop n it acc = (.error "scripted", { it with nextCalls := it.nextCalls + j })) :=
  next_run some (fun it a => (.ok a, it)) (fun it _ => (.error "over-reported", it))
    (fun it _ => (.error "scripted", it)) fillLoop (fun _ _ => rfl) (fun _ _ _ => rfl) n it acc

theorem collectAll_run (n : Nat) (it : IterSt) (acc : List Item) :
    ∃ j, j ≤ n ∧ j ≤ it.sc.items.length - it.nextCalls ∧
      let acc' := acc ++ (it.sc.items.drop it.nextCalls).take j
      (j = n ∧ collectAll n it acc = (some acc', { it with nextCalls := it.nextCalls + j })) ∨
      (j < n ∧ it.sc.items.length ≤ it.nextCalls + j ∧
        collectAll n it acc = (some acc', { it with nextCalls := it.nextCalls + j + 1 })) ∨
      (j < n ∧ it.sc.panicAt = some (it.nextCalls + j) ∧
        collectAll n it acc = (none, { it with nextCalls := it.nextCalls + j })) := by
  simpa only [List.map_id] using next_run id (fun it a => (some a, it)) (fun it a => (some a, it))
    (fun it _ => (none, it)) collectAll (fun _ _ => rfl) (fun _ _ _ => rfl) n it acc

theorem collectAll_all (fuel : Nat) (it : IterSt) (acc : List Item)
    (hf : it.sc.items.length < it.nextCalls + fuel) :
    ∃ it', (collectAll fuel it acc = (some (acc ++ it.sc.items.drop it.nextCalls), it') ∨
        it.sc.panicAt ≠ none ∧ collectAll fuel it acc = (none, it')) ∧ it'.sc = it.sc := by
  obtain ⟨j, _, hjl, ⟨rfl, e⟩ | ⟨_, hd, e⟩ | ⟨_, hp, e⟩⟩ := collectAll_run fuel it acc
  · rw [List.take_of_length_le (by simp; omega)] at e
    exact ⟨_, Or.inl e, rfl⟩
  · rw [List.take_of_length_le (by simp; omega)] at e
    exact ⟨_, Or.inl e, rfl⟩
  · exact ⟨_, Or.inr ⟨(fun h => nomatch hp.symm.trans h), e⟩, rfl⟩

/-! ## memory primitives on a freshly appended block, payload destructors, the log -/

theorem allocBlock_eq (m : Mem) (lay : Layout) (hdr : Option Item) (rl : Option Nat)
    (es : List (Option Item)) :
    allocBlock m lay hdr rl es =
      (⟨m.blocks ++ [⟨1, true, lay, hdr, rl, es, false⟩],
        m.log ++ [.alloc m.blocks.length lay.size lay.align], m.nextClone⟩, m.blocks.length) := rfl

theorem upd_new (bs : List Block) (log : List Event) (nc : Nat) (k : Block) (f : Block → Block) :
    (Mem.mk (bs ++ [k]) log nc).upd bs.length f = ⟨bs ++ [f k], log, nc⟩ := by
  simp [Mem.upd, modify_length_append]

theorem leak_new (bs : List Block) (log : List Event) (nc : Nat) (k : Block) (es : List Event) :
    ((Mem.mk (bs ++ [k]) log nc).leak bs.length).emit es =
      ⟨bs ++ [{ k with leaked := true }], log ++ es, nc⟩ := by
  simp only [Mem.leak, upd_new, Mem.emit]

theorem zipIdx_map_some (F : Option Item × Nat → Event)
    (hF : ∀ v i, F (some v, i) = Event.drop v.id) :
    ∀ (vs : List Item) (i : Nat), ((vs.map some).zipIdx i).map F = vs.map fun v => Event.drop v.id
  | [], _ => rfl
  | v :: vs, i => by
    simp only [List.map_cons, List.zipIdx_cons, hF]
    rw [zipIdx_map_some F hF vs (i + 1)]

theorem payloadDrops_written (b : Nat) (k : Block) (t : Ty) (len : Nat) (vs : List Item)
    (hk : k.elems = vs.map some) (ht : t.elemsInit = true) (hl : len = vs.length) :
    payloadDrops b k t len = hdrDrops k.hdr ++ dropsOf vs := by
  unfold payloadDrops hdrDrops dropsOf
  rw [hk, List.take_of_length_le (by simp [hl])]
  simp only [ht, if_true]
  congr 1
  exact zipIdx_map_some _ (fun _ _ => rfl) vs 0

theorem all_some_eq_map {es : List (Option Item)} (h : ∀ e ∈ es, e.isSome = true) :
    ∃ vs : List Item, es = vs.map some :=
  ⟨es.pmap (fun e he => e.get he) h,
    by simp only [List.map_pmap, Option.some_get, List.pmap_eq_map, List.map_id_fun', id_eq]⟩

theorem decr_sole (bs : List Block) (log : List Event) (nc : Nat) (k : Block) (t : Ty) (vs : List Item)
    (hk1 : k.count = 1) (hke : k.elems = vs.map some) (ht : t.elemsInit = true) :
    decr ⟨bs ++ [k], log, nc⟩ bs.length t vs.length =
      ⟨bs ++ [{ k with count := 0, live := false }],
       log ++ (hdrDrops k.hdr ++ dropsOf vs ++
         [.dealloc bs.length (t.releaseLayout vs.length).size (t.releaseLayout vs.length).align]), nc⟩ := by
  unfold decr
  simp only [List.getElem?_concat_length, hk1, if_true, upd_new, Mem.emit, payloadDrops_written _ _ _ _ vs hke ht rfl]

theorem added_append (m : Mem) (bs : List Block) (es : List Event) (nc : Nat) :
    added m ⟨bs, m.log ++ es, nc⟩ = es := by
  simp [added]

theorem dropIds_append (a b : List Event) : dropIds (a ++ b) = dropIds a ++ dropIds b := by
  simp [dropIds]

theorem mem_dropIds {es : List Event} {i : Nat} : i ∈ dropIds es ↔ Event.drop i ∈ es := by
  simp only [dropIds, List.mem_filterMap]
  constructor
  · rintro ⟨e, he, h⟩
    cases e <;> simp [Event.dropId?] at h
    subst h; exact he
  · intro h; exact ⟨_, h, rfl⟩

theorem dropIds_dropsOf (vs : List Item) : dropIds (dropsOf vs) = vs.map (·.id) := by
  rw [dropIds, dropsOf, List.filterMap_map]
  exact congrFun List.filterMap_eq_map vs

theorem dropIds_alloc (b s a : Nat) : dropIds [Event.alloc b s a] = [] := rfl
theorem dropIds_dealloc (b s a : Nat) : dropIds [Event.dealloc b s a] = [] := rfl

theorem dropIds_hdrDrops (h : Option Item) : dropIds (hdrDrops h) = h.toList.map (·.id) := by
  cases h <;> rfl

theorem no_uninit_dropsOf (vs : List Item) : ∀ e ∈ dropsOf vs, e.isDropUninit = false :=
  List.forall_mem_map.2 fun _ _ => rfl

theorem no_uninit_hdrDrops (h : Option Item) : ∀ e ∈ hdrDrops h, e.isDropUninit = false := by
  cases h with
  | none => exact fun _ he => nomatch he
  | some x => exact List.forall_mem_singleton.2 rfl

/-! ## the plain constructors -/

def Ctor.handle (b : Nat) : Ctor → HV
  | .new _ => ⟨.arc, .sized, b, 0, 0⟩
  | .newB _ => ⟨.arc, .sizedB, b, 0, 0⟩
  | .fromBox _ => ⟨.arc, .sized, b, 0, 0⟩
  | .uniqueNew _ => ⟨.uniq, .sized, b, 0, 0⟩
  | .fromVec vs => ⟨.arc, .slice, b, 0, vs.length⟩
  | .hsFromVec _ vs => ⟨.arc, .hs, b, 0, vs.length⟩
  | .hwlFromVec _ _ vs => ⟨.arc, .hwl, b, 0, vs.length⟩
  | .newUninit => ⟨.arc, .mu, b, 0, 0⟩
  | .uniqueNewUninit => ⟨.uniq, .mu, b, 0, 0⟩
  | .newUninitSlice n => ⟨.arc, .muSlice, b, 0, n⟩
  | .uniqueNewUninitSlice n => ⟨.uniq, .muSlice, b, 0, n⟩
  | .hsUninit _ n => ⟨.uniq, .hsMu, b, 0, n⟩

@[simp] theorem Ctor.handle_blk (c : Ctor) (b : Nat) : (c.handle b).blk = b := by cases c <;> rfl

theorem Ctor.handle_spec (c : Ctor) (b : Nat) :
    ((c.handle b).kind = .arc ∨ (c.handle b).kind = .uniq) ∧
    (c.handle b).ty.elemsInit = c.takesValues ∧ (c.handle b).ty.isSlicey = c.isSlice ∧
    (if c.isSlice then (c.handle b).len else 1) = if c.takesValues then c.vals.length else c.slots := by
  cases c with
  | uniqueNew | uniqueNewUninit | uniqueNewUninitSlice | hsUninit => exact ⟨Or.inr rfl, rfl, rfl, rfl⟩
  | _ => exact ⟨Or.inl rfl, rfl, rfl, rfl⟩

/-- the layout a constructor requests (`none` = the layout computation overflows: the Rust panics
before allocating) -/
def Ctor.lay? : Ctor → Option Layout
  | .new _ | .uniqueNew _ | .newUninit => some (allocLayoutBoxNew bits trackedLay)
  | .newB _ => some (allocLayoutBoxNew bits trackedBLay)
  | .fromBox _ => allocLayoutFor bits trackedLay
  | .uniqueNewUninit => some (allocLayoutNewUninit bits trackedLay)
  | .fromVec vs => allocLayoutHeaderSlice bits unitLayout trackedLay vs.length
  | .hsFromVec _ vs => allocLayoutHeaderSlice bits trackedLay trackedLay vs.length
  | .hwlFromVec _ _ vs => allocLayoutHeaderSlice bits Ty.hwl.hdrLay trackedLay vs.length
  | .newUninitSlice n | .uniqueNewUninitSlice n => allocLayoutHeaderSlice bits unitLayout trackedLay n
  | .hsUninit _ n => allocLayoutHeaderSlice bits trackedLay trackedLay n

def Ctor.elems (c : Ctor) : List (Option Item) :=
  if c.takesValues then c.vals.map some else List.replicate c.slots none

theorem Ctor.elems_length (c : Ctor) : c.elems.length = if c.takesValues then c.vals.length else c.slots := by
  unfold Ctor.elems
  split
  · exact List.length_map ..
  · exact List.length_replicate ..

theorem allocHeaderSlice_eq (m : Mem) (hdrLay elemLay : Layout) (hdr : Option Item)
    (recLen : Option Nat) (elems : List (Option Item)) :
    allocHeaderSlice m hdrLay elemLay hdr recLen elems =
      (allocLayoutHeaderSlice bits hdrLay elemLay elems.length).map fun lay =>
        allocBlock m lay hdr recLen elems := by
  unfold allocHeaderSlice
  cases allocLayoutHeaderSlice bits hdrLay elemLay elems.length <;> rfl

theorem runCtor_eq (m : Mem) (c : Ctor) :
    runCtor m c = c.lay?.map fun lay =>
      (⟨m.blocks ++ [⟨1, true, lay, c.hdr, c.recLen, c.elems, false⟩],
        m.log ++ [.alloc m.blocks.length lay.size lay.align], m.nextClone⟩,
       c.handle m.blocks.length) := by
  cases c with
  | fromBox v =>
    simp only [runCtor, Ctor.lay?]
    cases allocLayoutFor bits trackedLay <;> rfl
  | fromVec vs | hsFromVec h vs | hwlFromVec h r vs | newUninitSlice n | uniqueNewUninitSlice n
  | hsUninit h n =>
    simp only [runCtor, Ctor.lay?, allocHeaderSlice_eq, Option.map_map, List.length_map,
      List.length_replicate]
    rfl
  | _ => rfl

theorem runCtor_some {m m' : Mem} {c : Ctor} {hv : HV} (hr : runCtor m c = some (m', hv)) :
    ∃ lay, c.lay? = some lay ∧
      m' = ⟨m.blocks ++ [⟨1, true, lay, c.hdr, c.recLen, c.elems, false⟩],
            m.log ++ [.alloc m.blocks.length lay.size lay.align], m.nextClone⟩ ∧
      hv = c.handle m.blocks.length := by
  rw [runCtor_eq, Option.map_eq_some_iff] at hr
  obtain ⟨lay, hl, hr⟩ := hr
  cases hr
  exact ⟨lay, hl, rfl, rfl⟩

/-! ## `from_header_and_iter` -/

/-- the possible results of `fromHeaderAndIterCore`, for every script and every reported length `n` -/
inductive CoreOut (m : Mem) (hdrLay : Layout) (hdr : Option Item) (recLen : Option Nat) (ty : Ty)
    (n : Nat) (it : IterSt) : CtorRes → Prop
  | built (lay : Layout) :
      allocLayoutHeaderSlice bits hdrLay trackedLay n = some lay →
      n = it.sc.items.length - it.nextCalls →
      CoreOut m hdrLay hdr recLen ty n it
        (.built ⟨m.blocks ++ [⟨1, true, lay, hdr, recLen, (it.sc.items.drop it.nextCalls).map some, false⟩],
                 m.log ++ [.alloc m.blocks.length lay.size lay.align], m.nextClone⟩
                ⟨.arc, ty, m.blocks.length, 0, n⟩)
  /-- the layout computation panics before anything is allocated; unwinding drops the iterator (its
  unyielded items) and then the header, both still owned by the constructor's frame -/
  | noAlloc :
      allocLayoutHeaderSlice bits hdrLay trackedLay n = none →
      CoreOut m hdrLay hdr recLen ty n it
        (.panicked ⟨m.blocks, m.log ++ (dropsOf (it.sc.items.drop it.nextCalls) ++ hdrDrops hdr), m.nextClone⟩
          "layout-overflow")
  /-- a panic after the allocation: the block is leaked; the items not yet moved into it (those
  from index `k` on) are dropped with the iterator; what was written into the block comes from
  the items before index `k` -/
  | leaked (lay : Layout) (es : List (Option Item)) (k : Nat) (cls : String) :
      allocLayoutHeaderSlice bits hdrLay trackedLay n = some lay →
      (∀ v, some v ∈ es → v ∈ it.sc.items.take k) →
      (it.sc.panicAt ≠ none ∨ n ≠ it.sc.items.length - it.nextCalls) →
      CoreOut m hdrLay hdr recLen ty n it
        (.panicked ⟨m.blocks ++ [⟨1, true, lay, hdr, recLen, es, true⟩],
                    m.log ++ [.alloc m.blocks.length lay.size lay.align] ++ dropsOf (it.sc.items.drop k),
                    m.nextClone⟩ cls)

theorem core_spec (m : Mem) (hdrLay : Layout) (hdr : Option Item) (recLen : Option Nat) (ty : Ty)
    (n : Nat) (it : IterSt) :
    CoreOut m hdrLay hdr recLen ty n it (fromHeaderAndIterCore m hdrLay hdr recLen ty n it) := by
  unfold fromHeaderAndIterCore
  split
  · next hal =>
    rw [show (hdr.toList.map fun h => Event.drop h.id) = hdrDrops hdr by cases hdr <;> rfl]
    exact .noAlloc hal
  · next lay hal =>
    obtain ⟨j, hjn, hjl, ⟨rfl, e⟩ | ⟨hlt, hd, e⟩ | ⟨hlt, hp, e⟩⟩ := fillLoop_run n it []
    · -- the loop wrote `j = n` slots: the exhaustion check
      simp only [allocBlock_eq, e, upd_new, List.nil_append]
      rcases next_cases { it with nextCalls := it.nextCalls + j } with ⟨hp, e'⟩ | ⟨v, hv, e'⟩ | ⟨hd, e'⟩
      · simp only [e', leak_new]
        exact .leaked lay _ (it.nextCalls + j) _ hal (mem_take_drop_some _ _ _)
          (Or.inl fun h => nomatch hp.symm.trans h)
      · simp only [e', leak_new]
        have hlt := (List.getElem?_eq_some_iff.1 hv).1
        simp only at hv hlt
        rw [show [Event.drop v.id] ++ IterSt.dropRest { it with nextCalls := it.nextCalls + j + 1 }
          = dropsOf (it.sc.items.drop (it.nextCalls + j)) by rw [drop_eq_cons_of_getElem? hv]; rfl]
        exact .leaked lay _ (it.nextCalls + j) _ hal (mem_take_drop_some _ _ _) (Or.inr (by omega))
      · simp only [e']
        simp only at hd
        rw [List.take_of_length_le (by simp; omega)]
        exact .built lay hal (by omega)
    · simp only [allocBlock_eq, e, leak_new]
      exact .leaked lay _ (it.nextCalls + j + 1) _ hal (by simp) (Or.inr (by omega))
    · simp only [allocBlock_eq, e, leak_new]
      exact .leaked lay _ (it.nextCalls + j) _ hal (by simp) (Or.inl fun h => nomatch hp.symm.trans h)

theorem core_honest (m : Mem) (hdrLay : Layout) (hdr : Option Item) (recLen : Option Nat) (ty : Ty)
    (sc : IterScript) (lc hc : Nat) (lay : Layout) (hp : sc.panicAt = none)
    (hal : allocLayoutHeaderSlice bits hdrLay trackedLay sc.items.length = some lay) :
    fromHeaderAndIterCore m hdrLay hdr recLen ty sc.items.length ⟨sc, lc, hc, 0⟩ =
      .built ⟨m.blocks ++ [⟨1, true, lay, hdr, recLen, sc.items.map some, false⟩],
              m.log ++ [.alloc m.blocks.length lay.size lay.align], m.nextClone⟩
             ⟨.arc, ty, m.blocks.length, 0, sc.items.length⟩ := by
  have hs := core_spec m hdrLay hdr recLen ty sc.items.length ⟨sc, lc, hc, 0⟩
  generalize fromHeaderAndIterCore _ _ _ _ _ _ _ = r at hs
  cases hs with
  | built lay' hal' _ => rw [hal] at hal'; cases hal'; rfl
  | noAlloc hal' => rw [hal] at hal'; cases hal'
  | leaked _ _ _ _ _ _ hwhy =>
    rcases hwhy with h | h
    · exact absurd hp h
    · exact absurd rfl h

/-! ## the four iterator-driven constructors: every possible result -/

/-- the possible results of `runIterCtor m dbg which h sc`, for EVERY script `sc` -/
inductive IterOut (m : Mem) (which : IterCtor) (h : Option Item) (sc : IterScript) : CtorRes → Prop
  /-- a handle is returned: one new block, holding exactly the header and ALL the iterator's
  items, in order, every slot written; one `.alloc` event and nothing else -/
  | built (lay : Layout) :
      allocLayoutHeaderSlice bits which.hdrLay trackedLay sc.items.length = some lay →
      IterOut m which h sc
        (.built ⟨m.blocks ++ [⟨1, true, lay, which.hdrOf h, which.recOf sc.items.length,
                               sc.items.map some, false⟩],
                 m.log ++ [.alloc m.blocks.length lay.size lay.align], m.nextClone⟩
                ⟨which.kind, which.ty, m.blocks.length, 0, which.lenOf sc.items.length⟩)
  /-- a panic without any allocation outside `from_header_and_iter` (a `debug_assert` of
  `FromIterator`, a panic while collecting into the `Vec`, the `Vec` path's layout): the items from
  some index `k` on are dropped (by dropping the iterator / the partially collected `Vec`); these
  paths own no header -/
  | noBlock (k : Nat) (cls : String) :
      IterOut m which h sc
        (.panicked ⟨m.blocks, m.log ++ dropsOf (sc.items.drop k), m.nextClone⟩ cls)
  /-- the layout computation of `from_header_and_iter` for the reported length `n` overflows: the
  `unwrap()` panics before anything is allocated and before any `next()` call; unwinding drops the
  iterator — ALL its items — and then the header the constructor owns -/
  | noAlloc (n : Nat) :
      allocLayoutHeaderSlice bits which.hdrLay trackedLay n = none →
      IterOut m which h sc
        (.panicked ⟨m.blocks, m.log ++ (dropsOf sc.items ++ hdrDrops (which.hdrOf h)), m.nextClone⟩
          "layout-overflow")
  /-- a panic after the allocation: the half-built block is leaked (never destroyed); the items
  from some index `k` on are dropped with the iterator; whatever was written into the block
  comes from the items before index `k` -/
  | leaked (lay : Layout) (rl : Option Nat) (es : List (Option Item)) (k : Nat) (cls : String) :
      (∀ v, some v ∈ es → v ∈ sc.items.take k) →
      IterOut m which h sc
        (.panicked ⟨m.blocks ++ [⟨1, true, lay, which.hdrOf h, rl, es, true⟩],
                    m.log ++ [.alloc m.blocks.length lay.size lay.align] ++ dropsOf (sc.items.drop k),
                    m.nextClone⟩ cls)
  /-- `ThinArc::from_header_and_iter` with `len()` answers that disagree: the block is fully and
  correctly built (all items), then `into_thin`'s `assert_eq!` panics and the `Arc` is dropped
  properly: header and every element once, then the deallocation -/
  | thinMismatch (lay : Layout) (n1 : Nat) :
      which = .thinFromIter → n1 ≠ sc.items.length →
      allocLayoutHeaderSlice bits which.hdrLay trackedLay sc.items.length = some lay →
      IterOut m which h sc
        (.panicked ⟨m.blocks ++ [⟨0, false, lay, h, some n1, sc.items.map some, false⟩],
                    m.log ++ [.alloc m.blocks.length lay.size lay.align] ++
                      (hdrDrops h ++ dropsOf sc.items ++
                        [.dealloc m.blocks.length (Ty.hwl.releaseLayout sc.items.length).size
                          (Ty.hwl.releaseLayout sc.items.length).align]),
                    m.nextClone⟩ "length-mismatch")

theorem runIterCtor_spec (m : Mem) (dbg : Bool) (which : IterCtor) (h : Option Item)
    (sc : IterScript) : IterOut m which h sc (runIterCtor m dbg which h sc) := by
  cases which with
  | hsFromIter =>
    simp only [runIterCtor, IterSt.len]
    generalize nthOrLast sc.lens 0 sc.items.length = N
    have hs := core_spec m trackedLay h none .hs N { sc := sc, lenCalls := 0 + 1 }
    generalize fromHeaderAndIterCore _ _ _ _ _ _ _ = r at hs
    cases hs with
    | built lay hal hn =>
      obtain rfl : N = sc.items.length := hn
      exact .built lay hal
    | noAlloc hal => exact .noAlloc _ hal
    | leaked lay es k cls hal hes _ => exact .leaked lay _ es k cls hes
  | thinFromIter =>
    simp only [runIterCtor, IterSt.len]
    generalize nthOrLast sc.lens 0 sc.items.length = N1
    generalize nthOrLast sc.lens (0 + 1) sc.items.length = N2
    have hs := core_spec m Ty.hwl.hdrLay h (some N1) .hwl N2 { sc := sc, lenCalls := 0 + 1 + 1 }
    generalize fromHeaderAndIterCore _ _ _ _ _ _ _ = r at hs
    cases hs with
    | noAlloc hal => exact .noAlloc _ hal
    | leaked lay es k cls hal hes _ => exact .leaked lay _ es k cls hes
    | built lay hal hn =>
      obtain rfl : N2 = sc.items.length := hn
      simp only [Arc.into_thin, List.getElem?_concat_length, Option.bind_some, Option.getD_some, List.drop_zero]
      by_cases hN : N1 = sc.items.length
      · subst hN
        simp only [if_true]
        exact .built lay hal
      · simp only [hN, if_false, Arc.drop, viewLen, Ty.isSlicey, if_true]
        rw [decr_sole _ _ _ _ _ sc.items rfl rfl rfl]
        exact .thinMismatch lay N1 rfl hN hal
  | fromIter | uniqueFromIter =>
    simp only [runIterCtor, IterSt.sizeHint, reduceCtorEq, if_false, if_true]
    -- exact first hint?  then the two `debug_assert`s, which drop the untouched iterator
    refine iteInduction (fun _ => iteInduction (fun _ => .noBlock 0 _) fun _ =>
      iteInduction (fun _ => .noBlock 0 _) fun _ => ?_) fun _ => ?_
    · generalize (nthOrLast sc.hints (0 + 1 + 1) (sc.items.length, some sc.items.length)).1 = N
      have hs := core_spec m unitLayout none none .uslice N { sc := sc, hintCalls := 0 + 1 + 1 + 1 }
      generalize fromHeaderAndIterCore _ _ _ _ _ _ _ = r at hs
      cases hs with
      | built lay hal hn =>
        obtain rfl : N = sc.items.length := hn
        exact .built lay hal
      | noAlloc hal => exact .noAlloc _ hal
      | leaked lay es k cls hal hes _ => exact .leaked lay _ es k cls hes
    · obtain ⟨it', e | ⟨_, e⟩, hsc⟩ :=
        collectAll_all (sc.items.length + 1) { sc := sc, hintCalls := 0 + 1 } [] (by simp)
      · simp only [e, List.nil_append, List.drop_zero, runCtor_eq, Ctor.lay?]
        cases hal : allocLayoutHeaderSlice bits unitLayout trackedLay sc.items.length with
        | some lay => exact .built lay hal
        | none =>
          -- `From<Vec>` refuses: nothing was allocated, nothing is dropped
          rw [show CtorRes.panicked m "layout-overflow" = .panicked ⟨m.blocks,
            m.log ++ dropsOf (sc.items.drop sc.items.length), m.nextClone⟩ "layout-overflow" by simp [dropsOf]]
          exact .noBlock _ _
      · simp only [e, IterSt.dropRest, hsc, ← List.map_append, List.take_append_drop, Mem.emit]
        exact .noBlock 0 _

/-- an honest script: every `len()` answer is the number of items, every `size_hint()` answer is the
exact pair, no `next()` call panics (`lens = []` / `hints = []` mean "the default answer") -/
def IterScript.Honest (sc : IterScript) : Prop :=
  (∀ x ∈ sc.lens, x = sc.items.length) ∧
  (∀ x ∈ sc.hints, x = (sc.items.length, some sc.items.length)) ∧
  sc.panicAt = none

instance (sc : IterScript) : Decidable sc.Honest := by unfold IterScript.Honest; infer_instance

def IterCtor.builtRes (which : IterCtor) (m : Mem) (h : Option Item) (items : List Item)
    (lay : Layout) : CtorRes :=
  .built ⟨m.blocks ++ [⟨1, true, lay, which.hdrOf h, which.recOf items.length, items.map some, false⟩],
          m.log ++ [.alloc m.blocks.length lay.size lay.align], m.nextClone⟩
         ⟨which.kind, which.ty, m.blocks.length, 0, which.lenOf items.length⟩

/-- `from_header_and_iter` / `ThinArc::from_header_and_iter`: only `len()` and the panics matter -/
theorem runIterCtor_lens (m : Mem) (dbg : Bool) (which : IterCtor) (hw : which = .hsFromIter ∨ which = .thinFromIter)
    (h : Option Item) (sc : IterScript) (hl : ∀ x ∈ sc.lens, x = sc.items.length) (hp : sc.panicAt = none)
    (lay : Layout) (hal : allocLayoutHeaderSlice bits which.hdrLay trackedLay sc.items.length = some lay) :
    runIterCtor m dbg which h sc = which.builtRes m h sc.items lay := by
  rcases hw with rfl | rfl
  · simp only [runIterCtor, IterSt.len, nthOrLast_all _ _ _ hl]
    exact core_honest m trackedLay h none .hs sc _ _ lay hp hal
  · simp only [runIterCtor, IterSt.len, nthOrLast_all _ _ _ hl, core_honest m Ty.hwl.hdrLay _ _ _ _ _ _ lay hp hal,
      Arc.into_thin, List.getElem?_concat_length, Option.bind_some, Option.getD_some, if_true]
    rfl

theorem runIterCtor_honest (m : Mem) (dbg : Bool) (which : IterCtor) (h : Option Item)
    (sc : IterScript) (hh : sc.Honest) (lay : Layout)
    (hal : allocLayoutHeaderSlice bits which.hdrLay trackedLay sc.items.length = some lay) :
    runIterCtor m dbg which h sc = which.builtRes m h sc.items lay := by
  obtain ⟨hl, hs, hp⟩ := hh
  cases which with
  | hsFromIter => exact runIterCtor_lens m dbg _ (Or.inl rfl) h sc hl hp lay hal
  | thinFromIter => exact runIterCtor_lens m dbg _ (Or.inr rfl) h sc hl hp lay hal
  | fromIter | uniqueFromIter =>
    simp only [runIterCtor, IterSt.sizeHint, nthOrLast_all _ _ _ hs, ne_eq, not_true_eq_false,
      decide_false, Bool.and_false, Bool.false_eq_true, if_false, if_true, reduceCtorEq,
      core_honest m unitLayout _ _ _ _ _ _ lay hp hal]
    rfl

/-- `FromIterator` with an inexact first `size_hint()` answer and an iterator that does not panic:
the collect-to-`Vec` fallback, then `From<Vec>` (whatever `len()` and later hints say) -/
theorem runIterCtor_inexact (m : Mem) (dbg : Bool) (which : IterCtor)
    (hw : which = .fromIter ∨ which = .uniqueFromIter) (h : Option Item) (sc : IterScript)
    (lo : Nat) (hi : Option Nat) (rest : List (Nat × Option Nat))
    (hhint : sc.hints = (lo, hi) :: rest) (hne : some lo ≠ hi) (hp : sc.panicAt = none) (lay : Layout)
    (hal : allocLayoutHeaderSlice bits which.hdrLay trackedLay sc.items.length = some lay) :
    runIterCtor m dbg which h sc = which.builtRes m h sc.items lay := by
  obtain ⟨it', hc | ⟨hp', _⟩, _⟩ :=
    collectAll_all (sc.items.length + 1) { sc := sc, hintCalls := 0 + 1 } [] (by simp)
  · simp only [List.nil_append, List.drop_zero] at hc
    rcases hw with rfl | rfl
    all_goals
      simp only [runIterCtor, IterSt.sizeHint, hhint, nthOrLast_cons_zero, hne, if_false, hc, reduceCtorEq, if_true,
        runCtor_eq, Ctor.lay?, show allocLayoutHeaderSlice bits unitLayout trackedLay sc.items.length = some lay from hal]
      rfl
  · exact absurd hp hp'

/-! ## destroying a fully written block through its only handle -/

theorem dropHandle_sole (bs : List Block) (log : List Event) (nc : Nat) (k : Block) (hv : HV)
    (vs : List Item) (hk1 : k.count = 1) (hke : k.elems = vs.map some) (hb : hv.blk = bs.length)
    (hkind : hv.kind = .arc ∨ hv.kind = .uniq) (hinit : hv.ty.elemsInit = true)
    (hlen : (if hv.ty.isSlicey then hv.len else 1) = vs.length) :
    dropHandle ⟨bs ++ [k], log, nc⟩ hv =
      some ⟨bs ++ [{ k with count := 0, live := false }],
        log ++ (hdrDrops k.hdr ++ dropsOf vs ++
          [.dealloc bs.length (hv.ty.releaseLayout vs.length).size (hv.ty.releaseLayout vs.length).align]),
        nc⟩ := by
  have : dropHandle ⟨bs ++ [k], log, nc⟩ hv = some (decr ⟨bs ++ [k], log, nc⟩ hv.blk hv.ty vs.length) := by
    unfold dropHandle
    rcases hkind with hk | hk <;> simp only [hk, Arc.drop, viewLen, hlen]
  rw [this, hb, decr_sole _ _ _ _ _ vs hk1 hke hinit]

theorem dropHandle_thin (m : Mem) (hv : HV) (k : Block) (n : Nat) (hkind : hv.kind = .thin)
    (hk : m.blocks[hv.blk]? = some k) (hrec : k.recLen = some n) :
    dropHandle m hv = dropHandle m { hv with kind := .arc, ty := .hwl, len := n } := by
  simp only [dropHandle, hkind, ThinArc.drop, ThinArc.thick, viewLen, hk, Option.bind_some, hrec, Option.getD_some]

/-! ## the layout computation does not overflow for any realistic length -/

theorem hwl_hdrLay : Ty.hwl.hdrLay = ⟨16, 8⟩ := by decide

/-- the three bounds of `allocLayoutHeaderSlice_eq` for `n` elements of 8 bytes behind a header part
of at most 16 bytes, alignment 4 or 8, under any size limit `M` that leaves room for them -/
theorem layout_fits {M o A n : Nat} (ho : o ≤ 16) (hA : A = 4 ∨ A = 8) (hn : 8 * n + 40 ≤ M) :
    8 * n ≤ M - 4 ∧ o + 8 * n ≤ M - A ∧ roundUp 8 A + roundUp (o + 8 * n) A ≤ M - max 8 A := by
  have hr := roundUp_lt (o + 8 * n) (a := A) (by omega)
  have h8 : roundUp 8 A = 8 := by rcases hA with rfl | rfl <;> rfl
  have hA' : A ≤ 8 := by omega
  rw [h8, Nat.max_eq_left hA']
  clear hA h8
  omega

theorem layout_ok_aux {hs ha o A n : Nat} (hoff : roundUp hs 4 = o) (hal : max ha 4 = A) (ho : o ≤ 16)
    (hA : A = 4 ∨ A = 8) (hn : n ≤ 2 ^ 59) :
    (allocLayoutHeaderSlice 64 ⟨hs, ha⟩ ⟨8, 4⟩ n).isSome = true := by
  rw [allocLayoutHeaderSlice_eq, if_pos]; rfl
  have := layout_fits (M := 2 ^ 63) (n := n) ho hA
    (Nat.le_trans (Nat.add_le_add_right (Nat.mul_le_mul_left 8 hn) 40) (by decide))
  rw [← hoff, ← hal] at this
  exact this

/-- `allocate_for_header_and_slice` succeeds for each of the three header shapes of the history
model and every length up to 2^59 (the first failure is beyond 2^60 - 4 elements of 8 bytes) -/
theorem layout_ok_unit (n : Nat) (hn : n ≤ 2 ^ 59) :
    (allocLayoutHeaderSlice bits unitLayout trackedLay n).isSome = true :=
  layout_ok_aux (hs := 0) (ha := 1) rfl rfl (by decide) (Or.inl rfl) hn

theorem layout_ok_tracked (n : Nat) (hn : n ≤ 2 ^ 59) :
    (allocLayoutHeaderSlice bits trackedLay trackedLay n).isSome = true :=
  layout_ok_aux (hs := 8) (ha := 4) rfl rfl (by decide) (Or.inl rfl) hn

theorem layout_ok_hwl (n : Nat) (hn : n ≤ 2 ^ 59) :
    (allocLayoutHeaderSlice bits Ty.hwl.hdrLay trackedLay n).isSome = true := by
  rw [hwl_hdrLay]
  exact layout_ok_aux (hs := 16) (ha := 8) rfl rfl (by decide) (Or.inr rfl) hn

theorem layout_ok (which : IterCtor) (n : Nat) (hn : n ≤ 2 ^ 59) :
    (allocLayoutHeaderSlice bits which.hdrLay trackedLay n).isSome = true := by
  cases which
  · exact layout_ok_tracked n hn
  · exact layout_ok_hwl n hn
  · exact layout_ok_unit n hn
  · exact layout_ok_unit n hn

theorem ctor_layout_ok (c : Ctor) (hv : c.vals.length ≤ 2 ^ 59) (hs : c.slots ≤ 2 ^ 59) :
    c.lay?.isSome = true := by
  cases c with
  | fromBox v => exact (by decide : (allocLayoutFor bits trackedLay).isSome = true)
  | fromVec vs => exact layout_ok_unit _ hv
  | hsFromVec h vs => exact layout_ok_tracked _ hv
  | hwlFromVec h r vs => exact layout_ok_hwl _ hv
  | newUninitSlice n => exact layout_ok_unit _ hs
  | uniqueNewUninitSlice n => exact layout_ok_unit _ hs
  | hsUninit h n => exact layout_ok_tracked _ hs
  | _ => rfl

end M1

