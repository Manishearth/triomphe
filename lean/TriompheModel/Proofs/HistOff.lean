import TriompheModel.Proofs.HistOffStep
import TriompheModel.Proofs.HistLen
/-!
# The address invariant of the sequential handle machine (M1) — C11's history clause

`h.off` is the offset of the address stored in a handle value from the start of its block.
`OffInv s`: `Arc` / `UniqueArc` / `ThinArc` / raw thin pointers store the block start (`heap_ptr` is
the block start; `ThinArc::into_raw` / `as_ptr` give the block address — the known deviation F3,
modelled as the code does); raw pointers from `into_raw`, `OffsetArc`s and `ArcUnion` words store the
address at which the value itself lives (`dataOff` of their view).  Proved for `State.init`,
preserved by every op, hence true after every history.  From it and `LayInv`: every view of one
block computes the same value address, across clones, conversions and handle kinds, and that
address never changes while the block exists; feeding a raw pointer back recovers the block start
(`asArc … .off = 0`); the round trips are identities (`M1.Off.*` in `Proofs/HistOffBase.lean`).
-/
namespace M1
open LY

structure OffInv (s : State) : Prop where
  /-- block-address kinds store the block start -/
  blk_addr : ∀ (i : Nat) (h : HV), (i, h) ∈ s.slots →
      (h.kind = .arc ∨ h.kind = .uniq ∨ h.kind = .thin ∨ h.kind = .rawThin) → h.off = 0
  /-- data-address kinds store the address of the value -/
  data_addr : ∀ (i : Nat) (h : HV), (i, h) ∈ s.slots →
      (h.kind = .raw ∨ h.kind = .offset ∨ h.kind = .unionA ∨ h.kind = .unionB) →
      h.off = h.ty.dataOff (viewLen s.mem h)

theorem OffInv.toAll {s : State} (h : OffInv s) : OffAll s := fun e he =>
  ⟨fun hk => h.blk_addr e.1 e.2 he (isBlockAddr_iff.1 hk), fun hk => by
    rw [← viewLen_eq_fatLen (m := s.mem) (nonthin_of_data hk)]
    exact h.data_addr e.1 e.2 he (isBlockAddr_false_iff.1 hk)⟩

theorem OffAll.toInv {s : State} (h : OffAll s) : OffInv s where
  blk_addr := fun i hv he hk => (h (i, hv) he).blk (isBlockAddr_iff.2 hk)
  data_addr := fun i hv he hk => by
    have hd := isBlockAddr_false_iff.2 hk
    rw [viewLen_eq_fatLen (nonthin_of_data hd)]
    exact (h (i, hv) he).data hd

theorem offinv_init : OffInv State.init := OffAll.toInv (fun e he => by cases he)

theorem offinv_run (ops : List Op) : OffInv (run ops) :=
  (run_preserves_inv offinv_init.toAll off_step ops).toInv

theorem word64 : wordLayout 64 = ⟨8, 8⟩ := rfl

theorem valueLayout_alignIs (t : Ty) (n : Nat) : ∃ e, (t.valueLayout n).AlignIs e := by
  cases t
  case sizedB => exact ⟨4, rfl⟩
  case hwl => exact ⟨3, rfl⟩
  all_goals exact ⟨2, rfl⟩

theorem dataOff_of_release_eq {t t' : Ty} {n n' : Nat} (h : t.releaseLayout n = t'.releaseLayout n') :
    t.dataOff n = t'.dataOff n' := by
  obtain ⟨e, he⟩ := valueLayout_alignIs t n
  obtain ⟨e', he'⟩ := valueLayout_alignIs t' n'
  exact (arcInner_off_eq_align wordBits64 he).trans
    ((congrArg Layout.align h).trans (arcInner_off_eq_align wordBits64 he').symm)

/-- `heap_ptr` of the `Arc` any owning handle stands for is the block start; in particular
`from_raw` / `from_raw_offset` / the union's untagging recover the block start -/
theorem heap_ptr_is_block_start (ops : List Op) (i : Nat) (h : HV) (hl : lookup (run ops) i = some h) :
    (asArc (run ops).mem h).off = 0 :=
  asArc_off ((offinv_run ops).toAll.slot hl)

theorem heap_ptr_off_zero (ops : List Op) (i : Nat) (h : HV) (hl : lookup (run ops) i = some h) :
    Arc.heap_ptr_off (asArc (run ops).mem h) = 0 := heap_ptr_is_block_start ops i h hl

/-- `as_ptr` / `into_raw` return the address at which the value lives: the block start plus the
field offset of `data` for the handle's view -/
theorem as_ptr_is_value_address (ops : List Op) (i : Nat) (h : HV) (hl : lookup (run ops) i = some h) :
    Arc.as_ptr_off (run ops).mem (asArc (run ops).mem h) =
      (asArc (run ops).mem h).ty.dataOff (viewLen (run ops).mem (asArc (run ops).mem h)) := by
  simp only [Arc.as_ptr_off, heap_ptr_is_block_start ops i h hl, Nat.zero_add]

/-- the word stored in a raw pointer / `OffsetArc` / `ArcUnion` IS that address -/
theorem data_kind_stores_value_address (ops : List Op) (i : Nat) (h : HV) (hl : lookup (run ops) i = some h)
    (hk : h.kind = .raw ∨ h.kind = .offset ∨ h.kind = .unionA ∨ h.kind = .unionB) :
    h.off = Arc.as_ptr_off (run ops).mem (asArc (run ops).mem h) := by
  have hd := isBlockAddr_false_iff.2 hk
  have ho : OffOk h := (offinv_run ops).toAll.slot hl
  rw [asArc_data _ hd, Off.as_ptr_off_eq _ rfl]
  show h.off = h.off - h.ty.dataOff (fatLen h) + h.ty.dataOff (fatLen h)
  rw [ho.sub, Nat.zero_add]
  exact ho.data hd

/-- a handle to a block and a handle to the same block in a later state compute the same value address: the block
keeps the layout it was requested with (`Stable`), both views release with that layout (`LayInv`), so both find `data`
at the same offset from the block start (`OffAll`) -/
theorem same_address_of_stable {s s' : State} (hi : Inv s) (hlay : LayInv s) (ho : OffAll s) (hlay' : LayInv s')
    (ho' : OffAll s') (hst : Stable s.mem s'.mem) {i j : Nat} {h h' : HV} (h1 : lookup s i = some h)
    (h2 : lookup s' j = some h') (hb : h'.blk = h.blk) :
    Arc.as_ptr_off s'.mem (asArc s'.mem h') = Arc.as_ptr_off s.mem (asArc s.mem h) := by
  obtain ⟨k, hk, _⟩ := slot_block hi h1
  obtain ⟨k', hk', hs⟩ := hst h.blk k hk
  have l1 := hlay.lay i h (lookup_mem h1) k hk
  have l2 := hlay'.lay j h' (lookup_mem h2) k' (hb ▸ hk')
  simp only [Arc.as_ptr_off, asArc_off (ho.slot h1), asArc_off (ho'.slot h2), Nat.zero_add]
  exact dataOff_of_release_eq (l2.trans ((congrArg Shape.lay hs).trans l1.symm))

/-- the value's address is identical across clones, conversions and handle kinds -/
theorem same_block_same_data_address (ops : List Op) (i j : Nat) (hi hj : HV)
    (h1 : lookup (run ops) i = some hi) (h2 : lookup (run ops) j = some hj) (hb : hi.blk = hj.blk) :
    Arc.as_ptr_off (run ops).mem (asArc (run ops).mem hi) =
      Arc.as_ptr_off (run ops).mem (asArc (run ops).mem hj) :=
  same_address_of_stable (inv_run ops) (layinv_run ops) (offinv_run ops).toAll (layinv_run ops) (offinv_run ops).toAll
    (Stable.refl _) h2 h1 hb

/-- the value's address is stable for the life of the allocation: a handle to the same block after
any op (in any slot, of any kind) computes the same address as a handle before it -/
theorem stable_under_step (s : State) (op : Op) (i j : Nat) (h h' : HV) (hi : Inv s) (hl : LenInv s)
    (hlay : LayInv s) (ho : OffInv s) (h1 : lookup s i = some h) (h2 : lookup (step s op).1 j = some h')
    (hb : h'.blk = h.blk) :
    Arc.as_ptr_off (step s op).1.mem (asArc (step s op).1.mem h') = Arc.as_ptr_off s.mem (asArc s.mem h) :=
  same_address_of_stable hi hlay ho.toAll (layinv_step s op hi hl hlay) (off_step hi.toInv' ho.toAll op)
    (step_stable hi.toInv' op) h1 h2 hb

/-- in M1 the field offset of `data` is 8 for every view except the over-aligned `TrackedB`
(align 16), where it is 16 (sanity fact; the theorems above do not use it) -/
theorem dataOff_values (t : Ty) (n : Nat) : t.dataOff n = if t = .sizedB then 16 else 8 := by
  cases t
  case sizedB => exact (rfl : roundUp 8 16 = 16)
  case hwl => exact (rfl : roundUp 8 8 = 8)
  all_goals exact (rfl : roundUp 8 4 = 8)

/-! ## non-vacuity -/

/-- a sized value seen as `dyn`, through an `OffsetArc` (then `make_mut`-redirected) and an
`ArcUnion`; a slice seen through a raw pointer; a `HeaderWithLength` block seen through a ThinArc
and a raw thin pointer -/
def exampleOffHistory : List Op :=
  [.create 0 (.new ⟨1, 1⟩), .clone 1 0, .conv 1 .intoRawOffset, .clone 2 0, .conv 2 .unionFirst,
   .create 3 (.fromVec [⟨2, 2⟩, ⟨3, 3⟩]), .clone 4 3, .conv 4 .intoRaw,
   .create 5 (.hwlFromVec ⟨4, 4⟩ 1 [⟨5, 5⟩]), .intoThin 5, .clone 6 5, .conv 6 .thinIntoRaw, .conv 0 .toDyn,
   .makeMut 1 9 false]

example : (run exampleOffHistory).slots.map (fun e => (e.1, e.2.kind, e.2.ty, e.2.blk, e.2.off)) =
    [(6, .rawThin, .hwl, 2, 0), (5, .thin, .hwl, 2, 0), (4, .raw, .slice, 1, 8), (3, .arc, .slice, 1, 0),
     (2, .unionA, .sized, 0, 8), (1, .offset, .sized, 3, 8), (0, .arc, .dyn, 0, 0)] := by decide +kernel

example : (run exampleOffHistory).slots.map (fun e =>
      (Arc.as_ptr_off (run exampleOffHistory).mem (asArc (run exampleOffHistory).mem e.2),
       (asArc (run exampleOffHistory).mem e.2).off)) = List.replicate 7 (8, 0) := by decide +kernel

/-- `mem::swap` inside `with_arc_mut`: the lending ThinArc (slot 0) and the ThinArc of slot 7 exchange
their allocations, both counts stay 1, nothing is logged -/
def exampleSwapHistory : List Op :=
  [.create 0 (.hwlFromVec ⟨9, 9⟩ 2 [⟨1, 1⟩, ⟨2, 2⟩]), .intoThin 0,
   .create 7 (.hwlFromVec ⟨8, 8⟩ 1 [⟨30, 3⟩]), .intoThin 7,
   .withCb 0 .thinWithArcMut [.swapWith 7, .cnt, .read]]

example : (run exampleSwapHistory).slots.map (fun e =>
      (e.1, e.2.kind, e.2.blk, e.2.off, loadCount (run exampleSwapHistory).mem e.2.blk,
        viewLen (run exampleSwapHistory).mem e.2)) =
    [(7, .thin, 0, 0, 1, 2), (0, .thin, 1, 0, 1, 1)] := by decide +kernel

example : (run exampleSwapHistory).mem.log = [.alloc 0 40 8, .alloc 1 32 8] := by decide +kernel

/-- the unsizing coercion of a `UniqueArc`, then `shareable`, a clone, and both released: the one
`dealloc` records the layout requested by `UniqueArc::new` -/
def exampleUniqDynHistory : List Op :=
  [.create 0 (.uniqueNew ⟨1, 1⟩), .conv 0 .toDyn, .conv 0 .shareable, .clone 1 0]

example : ((run (exampleUniqDynHistory.take 2)).slots.map fun e => (e.1, e.2.kind, e.2.ty, e.2.blk, e.2.off)) =
    [(0, .uniq, .dyn, 0, 0)] := by decide +kernel

example : ((run exampleUniqDynHistory).slots.map fun e =>
      (e.1, e.2.kind, e.2.ty, e.2.blk, e.2.off, loadCount (run exampleUniqDynHistory).mem e.2.blk)) =
    [(1, .arc, .dyn, 0, 0, 2), (0, .arc, .dyn, 0, 0, 2)] := by decide +kernel

example : (run (exampleUniqDynHistory ++ [.dropAll])).mem.log =
    [.alloc 0 16 8, .drop 1, .dealloc 0 16 8] := by decide +kernel

end M1
