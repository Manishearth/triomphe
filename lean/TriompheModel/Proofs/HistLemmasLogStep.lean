import TriompheModel.Proofs.HistLemmasLog
import TriompheModel.Proofs.HistLemmasStep
import TriompheModel.Proofs.SlotLaw
/-!
# Every state change keeps the allocation log disciplined; what a release logs

`LogInv s.mem` is preserved by `step s op` whenever the count invariant `Inv' s` holds (the latter is needed for
`fetch_add` and `UniqueArc::into_inner`, which do not test the count word): `LogInv.law` for the state changes,
`LogInv.handIn` for the ops that hand values in.  At the end, the events that `drop_inner`,
`Arc::drop`, `cloneValue` and `into_inner` append, in closed form.
-/
namespace M1

namespace LogInv

theorem arc_drop {m : Mem} (hi : LogInv m) (a : HV) : LogInv (Arc.drop m a) := hi.decr ..

theorem make_mut {m : Mem} (hi : LogInv m) (a : HV) (cp : Bool) : LogInv (Arc.make_mut m a cp).1 := by
  generalize hr : Arc.make_mut m a cp = r
  cases make_mut_graph hr with
  | unique | panicked => exact hi
  | redirected => exact ((hi.cloneValue _).arc_new _ _).arc_drop _

theorem into_thin {m : Mem} (hi : LogInv m) (a : HV) : LogInv (Arc.into_thin m a).1 := by
  rw [into_thin_eq]
  split
  · exact hi
  · exact hi.arc_drop a

theorem try_unwrap {m : Mem} (hi : LogInv m) {a : HV} {k : Block} (hk : m.blocks[a.blk]? = some k)
    (hl : k.live = true) : LogInv (Arc.try_unwrap m a).1 := by
  rw [try_unwrap_eq]
  split
  · exact hi.into_inner (u := { a with kind := .uniq }) hk hl
  · exact hi

end LogInv

theorem quiet_dropsOf (vs : List Item) : Quiet (dropsOf vs) := Quiet.map_drop vs (·.id)

theorem quiet_hdrDrops (h : Option Item) : Quiet (hdrDrops h) := by
  cases h with
  | none => exact Quiet.nil
  | some x => exact Quiet.cons rfl Quiet.nil

theorem LogInv.law : SlotLaw LogInv fun _ _ => True :=
  .ofMem (fun ⟨_, hk, hl, _⟩ hp => hp.incr hk hl) (fun _ hp => hp.arc_drop _) (fun _ b v hp => hp.writeVal b v)
    (fun _ b hp => hp.cloneValue b) (fun ⟨_, hk, hl, _⟩ hp => hp.into_inner hk hl)
    (fun _ b t hp => (hp.cloneValue b).arc_new t _)

theorem LogInv.micro {s s' : State} (hm : Micro s s') (hi : Inv' s) (hl : LogInv s.mem) : LogInv s'.mem :=
  (LogInv.law.micro hm hi ⟨hl, fun _ _ => trivial⟩).1

theorem LogInv.handIn {s s' : State} {op : Op} (hh : HandIn s op s') (hl : LogInv s.mem) : LogInv s'.mem := by
  cases hh with
  | create => exact hl.alloc ..
  | iterBuilt _ hc => cases hc; exact hl.alloc ..
  | @iterPanicked _ w hd sc _ _ hc =>
    cases hc with
    | noBlock => exact hl.emit (quiet_dropsOf _)
    | noAlloc => exact hl.emit ((quiet_dropsOf _).append (quiet_hdrDrops _))
    | leaked _ _ _ k => exact hl.append_block (quiet_dropsOf (sc.items.drop k)) rfl (by simp) nofun (.inl ⟨rfl, rfl⟩)
    | thinMismatch =>
      exact hl.append_block ((quiet_hdrDrops hd).append (quiet_dropsOf sc.items)) rfl (List.append_assoc ..)
        (fun _ => rfl) (.inr ⟨⟨_, _, rfl⟩, rfl⟩)
  | writeSlot => exact hl.upd _ _ (fun _ _ => ⟨rfl, rfl, fun _ h => h⟩)
  | writeRefused => exact hl.emit (Quiet.cons rfl Quiet.nil)

theorem log_step {s : State} (hi : Inv' s) (hl : LogInv s.mem) (op : Op) : LogInv (step s op).1.mem :=
  step_preserves_inv (X := fun s => LogInv s.mem) LogInv.micro LogInv.handIn hi hl op

theorem decr_log (m : Mem) (b : Nat) (t : Ty) (len : Nat) :
    (decr m b t len).log = m.log ++
      match m.blocks[b]? with
      | some k =>
        if k.count = 1 then
          payloadDrops b k t len ++ [Event.dealloc b (t.releaseLayout len).size (t.releaseLayout len).align]
        else []
      | none => [] := by
  cases hk : m.blocks[b]? with
  | none => simp [decr, hk]
  | some k =>
    by_cases h1 : k.count = 1 <;> simp [decr, hk, h1, Mem.emit, Mem.upd]

theorem arc_drop_log {m : Mem} {a : HV} {k : Block} (hk : m.blocks[a.blk]? = some k) :
    (Arc.drop m a).log = m.log ++
      if k.count = 1 then
        payloadDrops a.blk k a.ty (viewLen m a) ++
          [Event.dealloc a.blk (a.ty.releaseLayout (viewLen m a)).size (a.ty.releaseLayout (viewLen m a)).align]
      else [] := by
  rw [Arc.drop_eq, decr_log, hk]

/-- `m'`: a memory in which the block of `a` is as it was when the gate answered -/
theorem drop_shared_log {m m' : Mem} {a : HV} (hb : m'.blocks[a.blk]? = m.blocks[a.blk]?)
    (hu : Arc.is_unique m a = false) : (Arc.drop m' a).log = m'.log := by
  rw [Arc.drop_eq, decr_log, hb]
  cases hk : m.blocks[a.blk]? with
  | none => exact List.append_nil _
  | some k =>
    have hne1 : k.count ≠ 1 := by
      intro h1
      rw [(is_unique_iff_loadCount m a).2 (by simp [loadCount, hk, h1])] at hu
      cases hu
    simp only [if_neg hne1, List.append_nil]

theorem cloneValue_log (m : Mem) (b : Nat) :
    ∃ ce : List Event, (cloneValue m b).1.log = m.log ++ ce ∧
      ce.countP Mon.isCloneEv = (if (cloneValue m b).2.isSome then 1 else 0) ∧ Quiet ce := by
  unfold cloneValue
  split
  · exact ⟨[_], rfl, rfl, Quiet.cons rfl Quiet.nil⟩
  · exact ⟨[], (List.append_nil _).symm, rfl, Quiet.nil⟩

theorem into_inner_log (m : Mem) (u : HV) :
    (UniqueArc.into_inner m u).1.log = m.log ++
      match m.blocks[u.blk]? with
      | some _ => [Event.dealloc u.blk (u.ty.releaseLayout (viewLen m u)).size
                    (u.ty.releaseLayout (viewLen m u)).align]
      | none => [] := by
  cases hk : m.blocks[u.blk]? with
  | none => simp [UniqueArc.into_inner, hk]
  | some k => simp [UniqueArc.into_inner, hk, Mem.emit, Mem.upd]

end M1
