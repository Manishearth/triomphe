import TriompheModel.Proofs.MonitorLog
import TriompheModel.Proofs.MonitorCow
import TriompheModel.Proofs.MonitorUnwrap
import TriompheModel.Proofs.MonitorCtor
import TriompheModel.Proofs.MonitorCb
import TriompheModel.Proofs.MonitorFree
/-!
# One op of the simulation

The checks K1 – K15 of `Model/Monitor.lean`, each proved sound on the model's observation of one op in
`Proofs/Monitor*.lean`, put together: `checkOp` reports nothing on `observe (run pre) op`, with the events of the op
listed in any order, and the monitor state stays in the relation `Rel` with the model state.
-/
namespace M1
namespace Mon

theorem Obs.withEvs_self (o : Obs) : o.withEvs o.evs = o := rfl

theorem checkK4_withEvs (pre : List (Nat × SlotObs)) (op : Op) (o : Obs) (evs' : List Event)
    (h : evs'.isEmpty = o.evs.isEmpty) : checkK4 pre op (o.withEvs evs') = checkK4 pre op o := by
  unfold checkK4 Obs.withEvs
  simp only [h]

theorem checkK6_withEvs (pre : List (Nat × SlotObs)) (op : Op) (o : Obs) (evs' : List Event) :
    checkK6 pre op (o.withEvs evs') = checkK6 pre op o := rfl

theorem obsOnly_run (pre : List Op) (op : Op) (hf : FreshIds (pre ++ [op])) (st : MSt) (hr : Rel st (run pre))
    (evs' : List Event) (hperm : evs'.Perm (observe (run pre) op).evs) :
    (k2 ((observe (run pre) op).withEvs evs') st (canonEvs evs')).2 = [] ∧
    checkK3 ((observe (run pre) op).withEvs evs') (k2 ((observe (run pre) op).withEvs evs') st (canonEvs evs')).1 = [] ∧
    (checkObsOnly st ((observe (run pre) op).withEvs evs')).2 = [] ∧
    Rel (checkObsOnly st ((observe (run pre) op).withEvs evs')).1 (run (pre ++ [op])) := by
  have hrun := run_snoc pre op
  have h5 : checkK5 (observe (run pre) op) = [] :=
    K5_run (pre ++ [op]) _ (by rw [hrun]; rfl)
  have hi' := inv_run (pre ++ [op])
  have hl' := loginv_run (pre ++ [op])
  have hdl' := dl_run (pre ++ [op])
  have hnd' := drop_at_most_once (pre ++ [op]) hf
  rw [hrun] at hi' hl' hdl' hnd' ⊢
  have hg := step_grow (inv_run pre).toInv' op
  obtain ⟨es, hes⟩ := hg.log
  exact checkObsOnly_sound hr (loginv_run pre) hes hg.leak hi' hl' hdl' hnd' rfl (observe_evs hes ▸ hperm)
    ((checkK5_withEvs _ _).trans h5)

theorem checkOp_sound_perm (pre : List Op) (op : Op) (hf : FreshIds (pre ++ [op])) (st : MSt) (hr : Rel st (run pre))
    (evs' : List Event) (hperm : evs'.Perm (observe (run pre) op).evs) :
    (checkOp st op ((observe (run pre) op).withEvs evs')).2 = [] ∧
    Rel (checkOp st op ((observe (run pre) op).withEvs evs')).1 (run (pre ++ [op])) := by
  have hi := inv_run pre
  have hlen := leninv_run pre
  obtain ⟨_, _, h1, h2⟩ := obsOnly_run pre op hf st hr evs' hperm
  refine ⟨?_, h2⟩
  simp only [checkOp, h1, checkK4_withEvs _ _ _ _ hperm.isEmpty_eq, checkK6_withEvs, checkK7_withEvs _ _ _ _ hperm,
    checkK8_withEvs _ _ _ _ hperm, checkK9_withEvs _ _ _ _ hperm, checkK10_withEvs _ _ _ _ hperm,
    checkK11_withEvs _ _ _ _ hperm, checkK12_withEvs, checkK13_withEvs, checkK14_withEvs _ _ _ _ hperm,
    checkK15_withEvs, hr.pre, K4_sound hi, K6_sound hi, K7_sound hi hlen (initinv_run pre), K8_sound hi,
    K9_sound hi hlen, K10_sound hlen, K11_sound hi, K12_sound hi, K13_sound hi, K14_sound hi hlen st hr.pre,
    K15_sound, List.append_nil]

theorem checkOp_sound (pre : List Op) (op : Op) (hf : FreshIds (pre ++ [op])) (st : MSt) (hr : Rel st (run pre)) :
    (checkOp st op (observe (run pre) op)).2 = [] ∧
    Rel (checkOp st op (observe (run pre) op)).1 (run (pre ++ [op])) := by
  have := checkOp_sound_perm pre op hf st hr _ (List.Perm.refl _)
  rwa [Obs.withEvs_self] at this

end Mon
end M1
