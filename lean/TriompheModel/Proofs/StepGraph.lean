import TriompheModel.Proofs.Ctor
/-!
# The branches of `step`, `runConv`, `transientOf` and `Arc.make_mut`

`Step s op r` lists the branches of `step s op`: one constructor per branch that does something, with the guards under
which `step` takes it and the result written with the model's own functions.  Every refusal (`bad-op`) is the one
constructor `bad`, which records no reason: `Step s op` contains the graph of `step s op` and is not equal to it (the same
holds of `IterOut` inside `iterBuilt` / `iterPanicked`).  `step_graph : Step s op (step s op)` is the only case analysis
of `step` (`none` and a failed guard are `bad` by `Step.ofSome` and `Step.guard`): a statement about one op is proved by
`cases` on it, a statement about every op through `Micro` (`Proofs/Micro.lean`).  Only a forward equation under given
guards unfolds `step`, since `bad` does not say why an op was refused.

`Step` leaves `runConv`, `transientOf` and `Arc.make_mut` as they are.  Each has its graph here, before `Step`, and is
taken apart in that one proof: `ConvStep` (`runConv_graph`), `Transient` (`transientOf_graph`), `MakeMut`
(`make_mut_graph`); a statement about an answer `runConv m h c = some h'` is proved by `cases runConv_graph hc with …`.
(`runCb` has its graph in `Proofs/CbStep.lean`; `cloneHandle` computes on a handle of known kind; `dropHandle`,
`try_unique`, `try_unwrap`, `into_thin`, `clone_arc` have equations here.)
-/
namespace M1

theorem dropHandle_eq {m m' : Mem} {h : HV} (hd : dropHandle m h = some m') :
    m' = Arc.drop m (asArc m h) := by
  obtain ⟨k, t, b, o, l⟩ := h
  cases k <;> cases hd <;> rfl

theorem asArc_arc {m : Mem} {h : HV} (hk : h.kind = .arc) : asArc m h = h := by
  cases h; subst hk; rfl

theorem asArc_kind (m : Mem) (h : HV) : (asArc m h).kind = .arc := by
  unfold asArc; cases h.kind <;> rfl

theorem kind_eta {h : HV} {k : Kind} (hk : h.kind = k) : { h with kind := k } = h := by
  cases h; subst hk; rfl

theorem from_raw_of_arc {m : Mem} {h : HV} (hk : h.kind = .arc) :
    Arc.from_raw m (ArcBorrow.of_arc m h) = h := by
  cases h; subst hk
  simp [Arc.from_raw, ArcBorrow.of_arc, Arc.into_raw, Arc.as_ptr_off, viewLen]

theorem clone_arc_of_arc {m : Mem} {h : HV} (hk : h.kind = .arc) :
    ArcBorrow.clone_arc m (ArcBorrow.of_arc m h) = (incr m h.blk, asArc m h) := by
  rw [asArc_arc hk]; exact congrArg (Prod.mk _) (from_raw_of_arc hk)

theorem clone_arc_of_offset {m : Mem} {h : HV} (hk : h.kind = .offset) :
    OffsetArc.clone_arc m h = (incr m h.blk, asArc m h) := by
  cases h; subst hk; rfl

theorem clone_arc_of_union {m : Mem} {h : HV} (hk : h.kind = .unionA ∨ h.kind = .unionB) :
    ArcBorrow.clone_arc m (ArcUnion.borrow h) = (incr m h.blk, asArc m h) := by
  cases h; rcases hk with hk | hk <;> subst hk <;> rfl

theorem try_unique_eq (m : Mem) (a : HV) :
    Arc.try_unique m a = if Arc.is_unique m a = true then .ok { a with kind := .uniq } else .error a := rfl

theorem try_unwrap_eq (m : Mem) (a : HV) :
    Arc.try_unwrap m a =
      if Arc.is_unique m a = true then
        ((UniqueArc.into_inner m { a with kind := .uniq }).1, .ok (UniqueArc.into_inner m { a with kind := .uniq }).2)
      else (m, .error a) := by
  by_cases hu : Arc.is_unique m a = true <;> simp [Arc.try_unwrap, Arc.try_unique, hu]

theorem into_thin_eq (m : Mem) (a : HV) :
    Arc.into_thin m a =
      if ((m.blocks[a.blk]?.bind (·.recLen))).getD 0 = a.len then (m, some (ThinArc.of_arc a))
      else (Arc.drop m a, none) := rfl

theorem make_mut_eq (m : Mem) (a : HV) (cp : Bool) :
    Arc.make_mut m a cp =
      if Arc.is_unique m a then (m, some a) else if cp then (m, none) else
        (Arc.drop (Arc.new (cloneValue m a.blk).1 a.ty (cloneValue m a.blk).2).1 a,
         some (Arc.new (cloneValue m a.blk).1 a.ty (cloneValue m a.blk).2).2) := rfl

/-- the graph of `Arc::make_mut` (`cp`: `Clone` panics) -/
inductive MakeMut (m : Mem) (a : HV) : Bool → Mem × Option HV → Prop
  | unique {cp : Bool} : Arc.is_unique m a = true → MakeMut m a cp (m, some a)
  | panicked : Arc.is_unique m a = false → MakeMut m a true (m, none)
  | redirected : Arc.is_unique m a = false →
      MakeMut m a false (Arc.drop (Arc.new (cloneValue m a.blk).1 a.ty (cloneValue m a.blk).2).1 a,
        some (Arc.new (cloneValue m a.blk).1 a.ty (cloneValue m a.blk).2).2)

theorem make_mut_graph {m : Mem} {a : HV} {cp : Bool} {r : Mem × Option HV} (h : Arc.make_mut m a cp = r) :
    MakeMut m a cp r := by
  subst h
  rw [make_mut_eq]
  cases hu : Arc.is_unique m a with
  | true => exact .unique hu
  | false =>
    cases cp with
    | true => exact .panicked hu
    | false => exact .redirected hu

/-- the graph of `runConv`: one constructor per branch that answers, with the guard it passed -/
inductive ConvStep (m : Mem) (h : HV) : Conv → HV → Prop
  | intoRaw : h.kind = .arc ∧ (h.ty = .sized ∨ h.ty = .sizedB ∨ h.ty = .slice ∨ h.ty = .dyn) →
      ConvStep m h .intoRaw (Arc.into_raw m h)
  | fromRaw : h.kind = .raw → ConvStep m h .fromRaw (Arc.from_raw m h)
  | intoRawOffset : h.kind = .arc ∧ h.ty = .sized → ConvStep m h .intoRawOffset (Arc.into_raw_offset m h)
  | fromRawOffset : h.kind = .offset → ConvStep m h .fromRawOffset (Arc.from_raw_offset m h)
  | fromThin : h.kind = .thin → ConvStep m h .fromThin (ThinArc.thick m h)
  | thinIntoRaw : h.kind = .thin → ConvStep m h .thinIntoRaw (ThinArc.into_raw h)
  | thinFromRaw : h.kind = .rawThin → ConvStep m h .thinFromRaw (ThinArc.from_raw h)
  | unionFirst : h.kind = .arc ∧ h.ty = .sized → ConvStep m h .unionFirst (ArcUnion.from_first m h)
  | unionSecond : h.kind = .arc ∧ h.ty = .sizedB → ConvStep m h .unionSecond (ArcUnion.from_second m h)
  | eraseHeader : h.kind = .arc ∧ h.ty = .uslice → ConvStep m h .eraseHeader (Arc.erase_header h)
  | addHeader : h.kind = .arc ∧ h.ty = .slice → ConvStep m h .addHeader (Arc.add_unit_header h)
  | shareable : h.kind = .uniq ∧ h.ty ≠ .hsMu → ConvStep m h .shareable (UniqueArc.shareable h)
  | assumeMu : (h.kind = .arc ∨ h.kind = .uniq) ∧ allWritten m h = true → h.ty = .mu →
      ConvStep m h .assumeInit { h with ty := .sized }
  | assumeMuSlice : (h.kind = .arc ∨ h.kind = .uniq) ∧ allWritten m h = true → h.ty = .muSlice →
      ConvStep m h .assumeInit { h with ty := .slice }
  | assumeHsMu : (h.kind = .arc ∨ h.kind = .uniq) ∧ allWritten m h = true → h.ty = .hsMu → h.kind = .uniq →
      ConvStep m h .assumeInit { h with ty := .hs }
  /-- `Arc::into_raw`, `as *const dyn Tr`, `Arc::from_raw` -/
  | toDynArc : h.kind = .arc ∧ h.ty = .sized → ConvStep m h .toDyn (Arc.from_raw m { Arc.into_raw m h with ty := .dyn })
  /-- `UniqueArc<T>` → `UniqueArc<dyn Tr>`: same pointer -/
  | toDynUniq : h.kind = .uniq ∧ h.ty = .sized → ConvStep m h .toDyn { h with ty := .dyn }

theorem runConv_graph {m : Mem} {h h' : HV} {c : Conv} (hc : runConv m h c = some h') : ConvStep m h c h' := by
  cases c
  case assumeInit =>
    obtain ⟨hg, hc⟩ := Option.ite_none_right_eq_some.1 hc
    split at hc
    · rename_i hty; cases hc; exact .assumeMu hg hty
    · rename_i hty; cases hc; exact .assumeMuSlice hg hty
    · rename_i hty
      obtain ⟨hu, rfl⟩ := Option.ite_some_none_eq_some.1 hc
      exact .assumeHsMu hg hty hu
    · cases hc
  case toDyn =>
    by_cases hg : h.kind = .arc ∧ h.ty = .sized
    · cases (if_pos hg).symm.trans hc; exact .toDynArc hg
    · obtain ⟨hg, rfl⟩ := Option.ite_some_none_eq_some.1 ((if_neg hg).symm.trans hc); exact .toDynUniq hg
  -- the other conversions are `if guard then some _ else none`
  all_goals
    obtain ⟨hg, rfl⟩ := Option.ite_some_none_eq_some.1 hc
    constructor
    exact hg

/-- the graph of `transientOf`: what each callback API lends, and from which kind of handle -/
inductive Transient (m : Mem) (h : HV) : CbApi → HV → Prop
  | rawOffset : h.kind = .arc ∧ h.ty = .sized → Transient m h .rawOffset (Arc.into_raw_offset m h)
  | offsetWithArc : h.kind = .offset → Transient m h .offsetWithArc (OffsetArc.transient m h)
  | borrowArc : h.kind = .arc ∧ (h.ty = .sized ∨ h.ty = .sizedB) →
      Transient m h .borrowWithArc (Arc.from_raw m (ArcBorrow.of_arc m h))
  | borrowUnion : h.kind = .unionA ∨ h.kind = .unionB → Transient m h .borrowWithArc (Arc.from_raw m (ArcUnion.borrow h))
  | thinWithArc : h.kind = .thin → Transient m h .thinWithArc (ThinArc.thick m h)
  | thinWithArcMut : h.kind = .thin → Transient m h .thinWithArcMut (ThinArc.thick m h)

theorem transientOf_graph {m : Mem} {h t : HV} {api : CbApi} (ht : transientOf m api h = some t) :
    Transient m h api t := by
  cases api
  case borrowWithArc =>
    by_cases hg : h.kind = .arc ∧ (h.ty = .sized ∨ h.ty = .sizedB)
    · cases (if_pos hg).symm.trans ht; exact .borrowArc hg
    · obtain ⟨hg, rfl⟩ := Option.ite_some_none_eq_some.1 ((if_neg hg).symm.trans ht); exact .borrowUnion hg
  all_goals
    obtain ⟨hg, rfl⟩ := Option.ite_some_none_eq_some.1 ht
    constructor
    exact hg

/-- kinds through which `clone_arc` is offered: `Arc::borrow_arc`, `OffsetArc`, `ArcUnion::borrow` -/
def lendsArc (h : HV) : Prop :=
  h.kind = .arc ∧ (h.ty = .sized ∨ h.ty = .sizedB) ∨ h.kind = .offset ∨ h.kind = .unionA ∨ h.kind = .unionB

/-- view types on which `try_unique` is exercised -/
def tryUniqueTy (t : Ty) : Prop := t = .sized ∨ t = .slice ∨ t = .hs ∨ t = .hwl ∨ t = .mu ∨ t = .muSlice

inductive Step (s : State) : Op → State × Out → Prop
  | bad {op : Op} : Step s op (s, badOp)
  | createOverflow {dst : Nat} {c : Ctor} :
      lookup s dst = none → c.lay? = none → Step s (.create dst c) (s, panicked "layout-overflow")
  | create {dst : Nat} {c : Ctor} {lay : LY.Layout} :
      lookup s dst = none → c.lay? = some lay →
      Step s (.create dst c)
        (s.put (allocBlock s.mem lay c.hdr c.recLen c.elems).1 dst (c.handle s.mem.blocks.length), ok)
  | iterBuilt {dst : Nat} {w : IterCtor} {hd : Option Item} {sc : IterScript} {m : Mem} {h : HV} :
      lookup s dst = none → IterOut s.mem w hd sc (.built m h) → Step s (.iterCtor dst w hd sc) (s.put m dst h, ok)
  | iterPanicked {dst : Nat} {w : IterCtor} {hd : Option Item} {sc : IterScript} {m : Mem} {cls : String} :
      lookup s dst = none → IterOut s.mem w hd sc (.panicked m cls) →
      Step s (.iterCtor dst w hd sc) (⟨m, s.slots⟩, panicked cls)
  | clone {dst src : Nat} {h c : HV} {m : Mem} :
      lookup s dst = none → lookup s src = some h → cloneHandle s.mem h = some (m, c) →
      Step s (.clone dst src) (s.put m dst c, ok)
  | drop {src : Nat} {h : HV} {m : Mem} :
      lookup s src = some h → dropHandle s.mem h = some m → Step s (.drop src) (s.del m src, ok)
  | conv {src : Nat} {h h' : HV} {c : Conv} :
      lookup s src = some h → runConv s.mem h c = some h' → Step s (.conv src c) (s.set s.mem src h', ok)
  | intoThin {src : Nat} {h : HV} :
      lookup s src = some h → h.kind = .arc ∧ h.ty = .hwl →
      ((s.mem.blocks[h.blk]?.bind (·.recLen))).getD 0 = h.len →
      Step s (.intoThin src) (s.set s.mem src (ThinArc.of_arc h), ok)
  | intoThinRefused {src : Nat} {h : HV} :
      lookup s src = some h → h.kind = .arc ∧ h.ty = .hwl →
      ((s.mem.blocks[h.blk]?.bind (·.recLen))).getD 0 ≠ h.len →
      Step s (.intoThin src) (s.del (Arc.drop s.mem h) src, panicked "length-mismatch")
  | cloneArc {dst src : Nat} {h : HV} :
      lookup s dst = none → lookup s src = some h → lendsArc h →
      Step s (.cloneArc dst src) (s.put (incr s.mem h.blk) dst (asArc s.mem h), ok)
  | isUnique {src : Nat} {h : HV} :
      lookup s src = some h → h.kind = .arc → Step s (.isUnique src) (s, ok s!"unique={Arc.is_unique s.mem h}")
  | getMutSome {src v : Nat} {h : HV} :
      lookup s src = some h → h.kind = .arc ∧ h.ty.elemsInit = true → Arc.is_unique s.mem h = true →
      Step s (.getMut src v) (⟨writeVal s.mem h.blk v, s.slots⟩, ok "some")
  | getMutNone {src v : Nat} {h : HV} :
      lookup s src = some h → h.kind = .arc ∧ h.ty.elemsInit = true → Arc.is_unique s.mem h = false →
      Step s (.getMut src v) (s, ok "none")
  | getUniqueSome {src v : Nat} {h : HV} :
      lookup s src = some h → h.kind = .arc ∧ h.ty.elemsInit = true → Arc.is_unique s.mem h = true →
      Step s (.getUnique src v) (⟨writeVal s.mem h.blk v, s.slots⟩, ok "some")
  | getUniqueNone {src v : Nat} {h : HV} :
      lookup s src = some h → h.kind = .arc ∧ h.ty.elemsInit = true → Arc.is_unique s.mem h = false →
      Step s (.getUnique src v) (s, ok "none")
  | makeMut {src v : Nat} {cp : Bool} {h h' : HV} {m : Mem} :
      lookup s src = some h → h.kind = .arc ∧ h.ty = .sized → Arc.make_mut s.mem h cp = (m, some h') →
      Step s (.makeMut src v cp) (⟨writeVal m h'.blk v, (s.set m src h').slots⟩, ok)
  /-- `OffsetArc::make_mut`: `Arc::make_mut` on the `Arc` the handle stands for, written back as an `OffsetArc` -/
  | makeMutOffset {src v : Nat} {cp : Bool} {h a' : HV} {m : Mem} :
      lookup s src = some h → h.kind = .offset → Arc.make_mut s.mem (Arc.from_raw_offset s.mem h) cp = (m, some a') →
      Step s (.makeMut src v cp) (⟨writeVal m a'.blk v, (s.set m src (Arc.into_raw_offset m a')).slots⟩, ok)
  /-- `Clone` panicked in `make_mut`: nothing has happened yet (`a` is the `Arc` operated on) -/
  | makeMutPanic {src v : Nat} {cp : Bool} {h a : HV} {m : Mem} :
      lookup s src = some h → h.kind = .arc ∧ h.ty = .sized ∧ a = h ∨ h.kind = .offset ∧ a = Arc.from_raw_offset s.mem h →
      Arc.make_mut s.mem a cp = (m, none) → Step s (.makeMut src v cp) (s, panicked "scripted")
  | makeUnique {src v : Nat} {cp : Bool} {h h' : HV} {m : Mem} :
      lookup s src = some h → h.kind = .arc ∧ h.ty = .sized → Arc.make_mut s.mem h cp = (m, some h') →
      Step s (.makeUnique src v cp) (⟨writeVal m h'.blk v, (s.set m src h').slots⟩, ok)
  | makeUniquePanic {src v : Nat} {cp : Bool} {h : HV} {m : Mem} :
      lookup s src = some h → h.kind = .arc ∧ h.ty = .sized → Arc.make_mut s.mem h cp = (m, none) →
      Step s (.makeUnique src v cp) (s, panicked "scripted")
  | tryUnwrapOk {src : Nat} {h : HV} :
      lookup s src = some h → h.kind = .arc ∧ h.ty = .sized → Arc.is_unique s.mem h = true →
      Step s (.tryUnwrap src) (s.del (UniqueArc.into_inner s.mem { h with kind := .uniq }).1 src,
        ok s!"ok={showItem (UniqueArc.into_inner s.mem { h with kind := .uniq }).2}")
  | tryUnwrapErr {src : Nat} {h : HV} :
      lookup s src = some h → h.kind = .arc ∧ h.ty = .sized → Arc.is_unique s.mem h = false →
      Step s (.tryUnwrap src) (s, ok "err")
  | unwrapOrCloneSole {src : Nat} {cp : Bool} {h : HV} :
      lookup s src = some h → h.kind = .arc ∧ h.ty = .sized → Arc.is_unique s.mem h = true →
      Step s (.unwrapOrClone src cp) (s.del (UniqueArc.into_inner s.mem { h with kind := .uniq }).1 src,
        ok s!"val={showItem (UniqueArc.into_inner s.mem { h with kind := .uniq }).2}")
  | unwrapOrClonePanic {src : Nat} {h : HV} :
      lookup s src = some h → h.kind = .arc ∧ h.ty = .sized → Arc.is_unique s.mem h = false →
      Step s (.unwrapOrClone src true) (s.del (Arc.drop s.mem h) src, panicked "scripted")
  | unwrapOrCloneShared {src : Nat} {h : HV} :
      lookup s src = some h → h.kind = .arc ∧ h.ty = .sized → Arc.is_unique s.mem h = false →
      Step s (.unwrapOrClone src false) (s.del (Arc.drop (cloneValue s.mem h.blk).1 h) src,
        ok s!"val={showItem (cloneValue s.mem h.blk).2}")
  | intoInner {src : Nat} {h : HV} :
      lookup s src = some h → h.kind = .uniq ∧ h.ty = .sized →
      Step s (.intoInner src) (s.del (UniqueArc.into_inner s.mem h).1 src,
        ok s!"val={showItem (UniqueArc.into_inner s.mem h).2}")
  | tryUniqueOk {src : Nat} {h : HV} :
      lookup s src = some h → h.kind = .arc ∧ tryUniqueTy h.ty → Arc.is_unique s.mem h = true →
      Step s (.tryUnique src) (s.set s.mem src { h with kind := .uniq }, ok "ok")
  | tryUniqueErr {src : Nat} {h : HV} :
      lookup s src = some h → h.kind = .arc ∧ tryUniqueTy h.ty → Arc.is_unique s.mem h = false →
      Step s (.tryUnique src) (s, ok "err")
  | uniqWrite {src v : Nat} {h : HV} :
      lookup s src = some h → h.kind = .uniq ∧ h.ty.elemsInit = true →
      Step s (.uniqWrite src v) (⟨writeVal s.mem h.blk v, s.slots⟩, ok)
  | writeSlot {src i : Nat} {v : Item} {h : HV} :
      lookup s src = some h →
      (h.ty = .mu ∨ h.ty = .muSlice ∨ h.ty = .hsMu) ∧ i < viewLen s.mem h ∧ (h.kind = .uniq ∨ (h.kind = .arc ∧ h.ty ≠ .hsMu)) →
      ¬ (h.kind = .arc ∧ (!Arc.is_unique s.mem h) = true) →
      Step s (.writeSlot src i v)
        (⟨s.mem.upd h.blk fun k => { k with elems := k.elems.set i (some v) }, s.slots⟩, ok)
  /-- the deprecated `Arc::write` / `as_mut_slice` on a shared handle -/
  | writeSlotRefused {src i : Nat} {v : Item} {h : HV} :
      lookup s src = some h →
      (h.ty = .mu ∨ h.ty = .muSlice ∨ h.ty = .hsMu) ∧ i < viewLen s.mem h ∧ (h.kind = .uniq ∨ (h.kind = .arc ∧ h.ty ≠ .hsMu)) →
      h.kind = .arc ∧ (!Arc.is_unique s.mem h) = true →
      Step s (.writeSlot src i v)
        (⟨if h.ty = .mu then s.mem.emit [.drop v.id] else s.mem, s.slots⟩, panicked "not-unique")
  | withCb {src : Nat} {api : CbApi} {script : List CbAct} {h t : HV} :
      lookup s src = some h → transientOf s.mem api h = some t →
      Step s (.withCb src api script) (runCb api src script s t "")
  | dropAll : Step s .dropAll (dropAllFrom (sortedKeys s.slots) s, ok)

theorem Step.ofSome {s : State} {op : Op} {o : Option HV} {f : HV → State × Out} :
    (∀ h, o = some h → Step s op (f h)) → Step s op (match o with | some h => f h | none => (s, badOp)) := by
  intro h
  split
  · exact h _ rfl
  · exact .bad

theorem Step.guard {s : State} {op : Op} {c : Prop} [Decidable c] {r : State × Out} (h : c → Step s op r) :
    Step s op (if c then r else (s, badOp)) := by
  split
  · exact h ‹_›
  · exact .bad

theorem step_graph (s : State) (op : Op) : Step s op (step s op) := by
  cases op with
  | create dst c =>
    simp only [step]
    split
    · exact .bad
    · rename_i hd
      rw [runCtor_eq]
      cases hl : c.lay? with
      | none => exact .createOverflow hd hl
      | some lay => exact .create hd hl
  | iterCtor dst w h sc =>
    simp only [step]
    split
    · exact .bad
    · rename_i hd
      have hs := runIterCtor_spec s.mem true w h sc
      split
      · rename_i hc; exact .iterBuilt hd (hc ▸ hs)
      · rename_i hc; exact .iterPanicked hd (hc ▸ hs)
  | clone dst src =>
    simp only [step]
    split
    · split
      · exact .clone ‹_› ‹_› ‹_›
      · exact .bad
    · exact .bad
  | drop src =>
    refine .ofSome fun h hs => ?_
    split
    · exact .drop hs ‹_›
    · exact .bad
  | conv src c => exact .ofSome fun _ hs => .ofSome fun _ hc => .conv hs hc
  | intoThin src =>
    refine .ofSome fun h hs => .guard fun hc => ?_
    by_cases hr : ((s.mem.blocks[h.blk]?.bind (·.recLen))).getD 0 = h.len
    · rw [into_thin_eq, if_pos hr]; exact .intoThin hs hc hr
    · rw [into_thin_eq, if_neg hr]; exact .intoThinRefused hs hc hr
  | cloneArc dst src =>
    simp only [step]
    split
    · rename_i h hd hs
      by_cases h1 : h.kind = .arc ∧ (h.ty = .sized ∨ h.ty = .sizedB)
      · rw [if_pos h1, clone_arc_of_arc h1.1]; exact .cloneArc hd hs (.inl h1)
      rw [if_neg h1]
      by_cases h2 : h.kind = .offset
      · rw [if_pos h2, clone_arc_of_offset h2]; exact .cloneArc hd hs (.inr (.inl h2))
      rw [if_neg h2]
      by_cases h3 : h.kind = .unionA ∨ h.kind = .unionB
      · rw [if_pos h3, clone_arc_of_union h3]; exact .cloneArc hd hs (.inr (.inr h3))
      rw [if_neg h3]; exact .bad
    · exact .bad
  | isUnique src => exact .ofSome fun _ hs => .guard fun hc => .isUnique hs hc
  | getMut src v =>
    refine .ofSome fun h hs => .guard fun hc => ?_
    cases hu : Arc.is_unique s.mem h
    · exact .getMutNone hs hc hu
    · exact .getMutSome hs hc hu
  | getUnique src v =>
    refine .ofSome fun h hs => .guard fun hc => ?_
    rw [try_unique_eq]
    cases hu : Arc.is_unique s.mem h
    · exact .getUniqueNone hs hc hu
    · exact .getUniqueSome hs hc hu
  | makeMut src v cp =>
    refine .ofSome fun h hs => ?_
    split
    · rename_i hc
      split
      · exact .makeMut hs hc ‹_›
      · exact .makeMutPanic hs (.inl ⟨hc.1, hc.2, rfl⟩) ‹_›
    · refine .guard fun hc => ?_
      split
      · exact .makeMutOffset hs hc ‹_›
      · exact .makeMutPanic hs (.inr ⟨hc, rfl⟩) ‹_›
  | makeUnique src v cp =>
    refine .ofSome fun h hs => .guard fun hc => ?_
    split
    · exact .makeUnique hs hc ‹_›
    · exact .makeUniquePanic hs hc ‹_›
  | tryUnwrap src =>
    refine .ofSome fun h hs => .guard fun hc => ?_
    rw [try_unwrap_eq]
    cases hu : Arc.is_unique s.mem h
    · exact .tryUnwrapErr hs hc hu
    · exact .tryUnwrapOk hs hc hu
  | unwrapOrClone src cp =>
    refine .ofSome fun h hs => .guard fun hc => ?_
    rw [try_unwrap_eq]
    cases hu : Arc.is_unique s.mem h
    · cases cp
      · exact .unwrapOrCloneShared hs hc hu
      · exact .unwrapOrClonePanic hs hc hu
    · exact .unwrapOrCloneSole hs hc hu
  | intoInner src => exact .ofSome fun _ hs => .guard fun hc => .intoInner hs hc
  | tryUnique src =>
    refine .ofSome fun h hs => .guard fun hc => ?_
    rw [try_unique_eq]
    cases hu : Arc.is_unique s.mem h
    · exact .tryUniqueErr hs hc hu
    · exact .tryUniqueOk hs hc hu
  | uniqWrite src v => exact .ofSome fun _ hs => .guard fun hc => .uniqWrite hs hc
  | writeSlot src i v =>
    refine .ofSome fun h hs => .guard fun hc => ?_
    split
    · exact .writeSlotRefused hs hc ‹_›
    · exact .writeSlot hs hc ‹_›
  | withCb src api script => exact .ofSome fun _ hs => .ofSome fun _ ht => .withCb hs ht
  | dropAll => exact .dropAll
/-- `cases` on the result of this instead of unfolding `step`: each case comes with the equation `step s op = …` -/
theorem step_cases (s : State) (op : Op) : ∃ r, step s op = r ∧ Step s op r := ⟨_, rfl, step_graph s op⟩

end M1
