import TriompheModel.Proofs.HistInv
/-!
# Copy-on-write frame property (C08)

For `Arc::make_mut` / `Arc::make_unique` / `OffsetArc::make_mut` on slot `src`: every OTHER slot keeps
its handle and keeps observing the old, unmodified value (`digest`), whether the call wrote in place
(the handle was unique: no other slot refers to that block) or redirected `src` to a fresh block
(shared: the write goes to the fresh block; the old block only loses one count).
-/
namespace M1
open LY

/-- what `digest` depends on in a block -/
def Block.content (k : Block) : Option Item × Option Nat × List (Option Item) := (k.hdr, k.recLen, k.elems)

def cont (m : Mem) (b : Nat) := (m.blocks[b]?).map Block.content

theorem cont_of_block {m : Mem} {b : Nat} {k : Block} (hk : m.blocks[b]? = some k) :
    cont m b = some (k.hdr, k.recLen, k.elems) :=
  congrArg (Option.map Block.content) hk

theorem recLen_cont (m : Mem) (b : Nat) : m.blocks[b]?.bind (·.recLen) = (cont m b).bind (·.2.1) := by
  unfold cont; cases m.blocks[b]? <;> rfl

theorem viewLen_congr {m m' : Mem} {h : HV} (hc : cont m' h.blk = cont m h.blk) : viewLen m' h = viewLen m h := by
  unfold viewLen
  rw [recLen_cont, recLen_cont, hc]

theorem digest_congr {m m' : Mem} {h : HV} (hc : cont m' h.blk = cont m h.blk) : digest m' h = digest m h := by
  unfold digest
  rw [viewLen_congr hc]
  unfold cont at hc
  -- both blocks are there, with equal header and elements, or both are not
  cases h1 : m'.blocks[h.blk]? <;> cases h2 : m.blocks[h.blk]? <;> rw [h1, h2] at hc <;>
    simp only [Option.map_some, Option.map_none, Option.some.injEq, Block.content, Prod.mk.injEq, reduceCtorEq] at hc
  simp only [hc.1, hc.2.2]

theorem cont_upd (m : Mem) (b : Nat) (f : Block → Block) {j : Nat} (hf : b = j → ∀ k, (f k).content = k.content) :
    cont (m.upd b f) j = cont m j := by
  unfold cont
  rw [upd_get]
  cases m.blocks[j]? with
  | none => rfl
  | some k => by_cases hbj : b = j <;> simp [hbj, hf]

theorem cont_upd_ne (m : Mem) (b : Nat) (f : Block → Block) {j : Nat} (h : j ≠ b) : cont (m.upd b f) j = cont m j :=
  cont_upd m b f fun e => absurd e.symm h

theorem cont_decr (m : Mem) (b : Nat) (t : Ty) (len : Nat) (j : Nat) : cont (decr m b t len) j = cont m j := by
  unfold decr
  split
  · rfl
  · split
    · exact cont_upd m b (fun k => { k with count := 0, live := false }) fun _ _ => rfl
    · exact cont_upd m b (fun k => { k with count := k.count - 1 }) fun _ _ => rfl

theorem cont_clone_new (m : Mem) (b : Nat) (t : Ty) {j : Nat} (hj : j < m.blocks.length) :
    cont (Arc.new (cloneValue m b).1 t (cloneValue m b).2).1 j = cont m j := by
  show ((cloneValue m b).1.blocks ++ [_])[j]?.map _ = _
  rw [cloneValue_blocks, List.getElem?_append_left hj]; rfl

theorem make_mut_cases (m : Mem) (a : HV) (cp : Bool) :
    Arc.is_unique m a = true ∧ Arc.make_mut m a cp = (m, some a) ∨
    cp = true ∧ Arc.make_mut m a cp = (m, none) ∨
    ∃ m' f, Arc.make_mut m a cp = (m', some f) ∧ f.blk = m.blocks.length ∧
      ∀ j, j < m.blocks.length → cont m' j = cont m j := by
  generalize hr : Arc.make_mut m a cp = r
  cases make_mut_graph hr with
  | unique hu => exact .inl ⟨hu, rfl⟩
  | panicked => exact .inr (.inl ⟨rfl, rfl⟩)
  | redirected =>
    refine .inr (.inr ⟨_, _, rfl, length_cloneValue m a.blk, fun j hj => ?_⟩)
    rw [Arc.drop_eq, cont_decr, cont_clone_new _ _ _ hj]

/-- the state after `make_mut` through the `Arc` view `a` of slot `src` and the write; `g` turns the resulting `Arc` back
into the slot's kind of handle; the scripted panic of `Clone` is the only failure and leaves the state as it is -/
def mmState (s : State) (src v : Nat) (a : HV) (g : Mem → HV → HV) (cp : Bool) : State :=
  match Arc.make_mut s.mem a cp with
  | (m, some h') => ⟨writeVal m h'.blk v, (s.set m src (g m h')).slots⟩
  | (_, none) => s

theorem step_makeMut_arc {s : State} {src : Nat} {h : HV} (v : Nat) (cp : Bool) (hs : lookup s src = some h)
    (hc : h.kind = .arc ∧ h.ty = .sized) :
    (step s (.makeMut src v cp)).1 = mmState s src v h (fun _ x => x) cp := by
  simp only [step, hs, if_pos hc, mmState]; split <;> simp only [*]

theorem step_makeUnique_arc {s : State} {src : Nat} {h : HV} (v : Nat) (cp : Bool) (hs : lookup s src = some h)
    (hc : h.kind = .arc ∧ h.ty = .sized) :
    (step s (.makeUnique src v cp)).1 = mmState s src v h (fun _ x => x) cp := by
  simp only [step, hs, if_pos hc, mmState]; split <;> simp only [*]

theorem step_makeMut_offset {s : State} {src : Nat} {h : HV} (v : Nat) (cp : Bool) (hs : lookup s src = some h)
    (hc : h.kind = .offset) :
    (step s (.makeMut src v cp)).1 =
      mmState s src v (Arc.from_raw_offset s.mem h) (fun m x => Arc.into_raw_offset m x) cp := by
  simp only [step, hs, hc, reduceCtorEq, false_and, if_false, if_true, mmState]; split <;> simp only [*]

section
variable {s : State} {src v : Nat} {h a : HV} {g : Mem → HV → HV} {cp : Bool}

theorem mmState_frame_cont (hi : Inv s) (hs : lookup s src = some h) (ha : a.blk = h.blk)
    {i : Nat} {hv : HV} (hne : i ≠ src) (hl : lookup s i = some hv) :
    lookup (mmState s src v a g cp) i = some hv ∧
      cont (mmState s src v a g cp).mem hv.blk = cont s.mem hv.blk := by
  have hlt : hv.blk < s.mem.blocks.length := hi.inb _ (lookup_mem hl)
  unfold mmState
  rcases make_mut_cases s.mem a cp with ⟨hu, hmm⟩ | ⟨_, hmm⟩ | ⟨m', f, hmm, hf, hm'⟩ <;> rw [hmm]
  · -- written in place: nobody else refers to the block
    refine ⟨(lookupL_setL_ne _ _ hne).trans hl, cont_upd_ne _ _ _ fun e => hne ?_⟩
    have hown : owners s h.blk = 1 := by
      rw [← hi.toInv'.loadCount_eq hs, ← ha]; exact (is_unique_iff_loadCount s.mem a).1 hu
    exact congrArg Prod.fst (ownersL_one_unique hown (lookup_mem hl) (e.trans ha) (lookup_mem hs) rfl)
  · exact ⟨hl, rfl⟩
  · -- redirected to a fresh block: the write goes there, the old block only loses one count
    exact ⟨(lookupL_setL_ne _ _ hne).trans hl, (cont_upd_ne _ _ _ (hf ▸ Nat.ne_of_lt hlt)).trans (hm' _ hlt)⟩

theorem mmState_frame (hi : Inv s) (hs : lookup s src = some h) (ha : a.blk = h.blk)
    {i : Nat} {hv : HV} (hne : i ≠ src) (hl : lookup s i = some hv) :
    lookup (mmState s src v a g cp) i = some hv ∧
      digest (mmState s src v a g cp).mem hv = digest s.mem hv :=
  (mmState_frame_cont hi hs ha hne hl).imp_right digest_congr

theorem mmState_shared_owners (hi : Inv s) (hs : lookup s src = some h) (ha : a.blk = h.blk)
    (hg : ∀ m x, (g m x).blk = x.blk) (hsh : owners s h.blk ≠ 1) :
    owners (mmState s src v a g false) h.blk = owners s h.blk - 1 ∧
    owners (mmState s src v a g false) s.mem.blocks.length = 1 ∧
    ∃ h', lookup (mmState s src v a g false) src = some h' ∧ h'.blk = s.mem.blocks.length := by
  have hlt : h.blk < s.mem.blocks.length := hi.inb _ (lookup_mem hs)
  have hzero : ownersL s.slots s.mem.blocks.length = 0 := owners_fresh hi
  unfold mmState
  rcases make_mut_cases s.mem a false with ⟨hu, _⟩ | ⟨hcp, _⟩ | ⟨m', f, hmm, hf, _⟩
  · rw [is_unique_iff_loadCount, ha, hi.toInv'.loadCount_eq hs] at hu; exact absurd hu hsh
  · cases hcp
  · rw [hmm]
    have hb : (g m' f).blk = s.mem.blocks.length := (hg _ _).trans hf
    have hset := fun b => ownersL_set (h' := g m' f) hi.keys (lookup_mem hs) b
    refine ⟨?_, ?_, _, mem_lookupL ((keys_setL ..).symm ▸ hi.keys) (mem_setL_new (lookup_mem hs)), hb⟩
    · have := hset h.blk
      rw [hb, if_pos rfl, if_neg (Nat.ne_of_gt hlt)] at this
      exact Nat.eq_sub_of_add_eq this
    · have := hset s.mem.blocks.length
      rw [hb, if_pos rfl, if_neg (Nat.ne_of_lt hlt), hzero] at this
      exact this.trans (Nat.zero_add 1)

end

/-- [C08] `Arc::make_mut` / `OffsetArc::make_mut`: every other slot keeps its handle and keeps
observing the old, unmodified value -/
theorem makeMut_frame (s : State) (src v : Nat) (cp : Bool) (h : HV) (hi : Inv s)
    (hs : lookup s src = some h) (hc : (h.kind = .arc ∧ h.ty = .sized) ∨ h.kind = .offset)
    (i : Nat) (hv : HV) (hne : i ≠ src) (hl : lookup s i = some hv) :
    lookup (step s (.makeMut src v cp)).1 i = some hv ∧
      digest (step s (.makeMut src v cp)).1.mem hv = digest s.mem hv := by
  rcases hc with hc | hc
  · rw [step_makeMut_arc v cp hs hc]; exact mmState_frame hi hs rfl hne hl
  · rw [step_makeMut_offset v cp hs hc]
    exact mmState_frame (a := Arc.from_raw_offset s.mem h) hi hs rfl hne hl

/-- [C08] `Arc::make_unique` likewise -/
theorem makeUnique_frame (s : State) (src v : Nat) (cp : Bool) (h : HV) (hi : Inv s)
    (hs : lookup s src = some h) (hc : h.kind = .arc ∧ h.ty = .sized)
    (i : Nat) (hv : HV) (hne : i ≠ src) (hl : lookup s i = some hv) :
    lookup (step s (.makeUnique src v cp)).1 i = some hv ∧
      digest (step s (.makeUnique src v cp)).1.mem hv = digest s.mem hv := by
  rw [step_makeUnique_arc v cp hs hc]; exact mmState_frame hi hs rfl hne hl

/-- shared, non-panicking `make_mut`: the old block loses exactly one owner, the fresh block
(index `s.mem.blocks.length`) is owned by `src` alone -/
theorem makeMut_shared_owners (s : State) (src v : Nat) (h : HV) (hi : Inv s)
    (hs : lookup s src = some h) (hc : (h.kind = .arc ∧ h.ty = .sized) ∨ h.kind = .offset)
    (hsh : owners s h.blk ≠ 1) :
    owners (step s (.makeMut src v false)).1 h.blk = owners s h.blk - 1 ∧
    owners (step s (.makeMut src v false)).1 s.mem.blocks.length = 1 ∧
    ∃ h', lookup (step s (.makeMut src v false)).1 src = some h' ∧ h'.blk = s.mem.blocks.length := by
  rcases hc with hc | hc
  · rw [step_makeMut_arc v false hs hc]; exact mmState_shared_owners hi hs rfl (fun _ _ => rfl) hsh
  · rw [step_makeMut_offset v false hs hc]
    exact mmState_shared_owners (a := Arc.from_raw_offset s.mem h) hi hs rfl (fun _ _ => rfl) hsh

theorem makeUnique_shared_owners (s : State) (src v : Nat) (h : HV) (hi : Inv s)
    (hs : lookup s src = some h) (hc : h.kind = .arc ∧ h.ty = .sized) (hsh : owners s h.blk ≠ 1) :
    owners (step s (.makeUnique src v false)).1 h.blk = owners s h.blk - 1 ∧
    owners (step s (.makeUnique src v false)).1 s.mem.blocks.length = 1 ∧
    ∃ h', lookup (step s (.makeUnique src v false)).1 src = some h' ∧ h'.blk = s.mem.blocks.length := by
  rw [step_makeUnique_arc v false hs hc]; exact mmState_shared_owners hi hs rfl (fun _ _ => rfl) hsh

/-- the log of a redirecting `make_mut` (`MakeMut.redirected`): what `cloneValue` logs, then the `alloc` of the fresh
block; the release of the old handle is not the last one -/
theorem make_mut_shared_log {m : Mem} {a : HV} (hlt : a.blk < m.blocks.length) (hu : Arc.is_unique m a = false) :
    ∃ ce sz al, (Arc.drop (Arc.new (cloneValue m a.blk).1 a.ty (cloneValue m a.blk).2).1 a).log =
        m.log ++ (ce ++ [Event.alloc m.blocks.length sz al]) ∧
      ce.countP Mon.isCloneEv = (if (cloneValue m a.blk).2.isSome then 1 else 0) ∧ Quiet ce := by
  obtain ⟨ce, hce, hcc, hq⟩ := cloneValue_log m a.blk
  refine ⟨ce, (allocLayoutBoxNew bits a.ty.elemLay).size, (allocLayoutBoxNew bits a.ty.elemLay).align, ?_, hcc, hq⟩
  rw [drop_shared_log (m := m) (by rw [arc_new_get _ _ _ (by rw [length_cloneValue]; exact hlt), cloneValue_blocks]) hu]
  show (cloneValue m a.blk).1.log ++ [_] = _
  rw [hce, List.append_assoc, length_cloneValue]

end M1
