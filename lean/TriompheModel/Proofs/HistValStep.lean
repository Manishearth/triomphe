import TriompheModel.Proofs.HistValBase
import TriompheModel.Proofs.HistLemmasStep
import TriompheModel.Proofs.SlotLaw
/-!
# Every op keeps the value invariant

A predicate on memories that is closed under the primitive memory operations (`MemClosed`) is an invariant of memory
alone in the sense of `Proofs/SlotLaw.lean` (`MemClosed.law`), so it is preserved by every state change `Micro`, hence
by every op that hands in no new value (all but `create`, `iterCtor`, `writeSlot`), given the count invariant `Inv'`
(needed to know that `fetch_add` hits a live block and `drop_inner` a block that is not an abandoned one).  `ValInvM seen`
is such a predicate.  The three ops that hand values in enlarge `seen` by the identities they mention (`opIds`), which
must be new (`NewIds`): `ValInvM.handIn`.
-/
namespace M1

structure MemClosed (P : Mem → Prop) : Prop where
  hIncr : ∀ (m : Mem) (b : Nat) (k : Block), P m → m.blocks[b]? = some k → k.live = true → P (incr m b)
  hDecr : ∀ (m : Mem) (b : Nat) (t : Ty) (l : Nat), P m →
          (∀ k : Block, m.blocks[b]? = some k → k.leaked = false) → P (decr m b t l)
  hWriteVal : ∀ (m : Mem) (b v : Nat), P m → P (writeVal m b v)
  hCloneValue : ∀ (m : Mem) (b : Nat), P m → P (cloneValue m b).1
  hCloneNew : ∀ (m : Mem) (b : Nat) (t : Ty), P m → P (Arc.new (cloneValue m b).1 t (cloneValue m b).2).1
  hIntoInner : ∀ (m : Mem) (u : HV), P m → P (UniqueArc.into_inner m u).1

theorem MemClosed.law {P : Mem → Prop} (hc : MemClosed P) : SlotLaw P fun _ _ => True :=
  .ofMem (fun ⟨k, hk, hl, _⟩ hp => hc.hIncr _ _ k hp hk hl)
    (fun ⟨_, hk, _, hnl⟩ hp => hc.hDecr _ _ _ _ hp fun _ hk' => Option.some.inj (hk.symm.trans hk') ▸ hnl)
    hc.hWriteVal hc.hCloneValue (fun _ hp => hc.hIntoInner _ _ hp) hc.hCloneNew

theorem MemClosed.micros {P : Mem → Prop} (hc : MemClosed P) {s s' : State} (hm : Micros s s') (hi : Inv' s)
    (hp : P s.mem) : P s'.mem :=
  (hc.law.micros hm hi ⟨hp, fun _ _ => trivial⟩).1

namespace Op

def plain : Op → Bool
  | .create .. | .iterCtor .. | .writeSlot .. => false
  | _ => true

end Op

theorem closed_step {P : Mem → Prop} (hc : MemClosed P) {s : State} (hi : Inv' s) (hp : P s.mem)
    (op : Op) (hop : op.plain = true) : P (step s op).1.mem := by
  rcases step_change s op with h | h
  · exact hc.micros h hi hp
  · generalize (step s op).1 = s' at h
    cases h <;> cases hop

theorem valinvM_closed (seen : List Nat) : MemClosed (ValInvM seen) where
  hIncr := fun _ _ _ hp hk hl => hp.incr hk hl
  hDecr := fun _ b t l hp hnl => hp.decr b t l hnl
  hWriteVal := fun _ b v hp => hp.writeVal b v
  hCloneValue := fun _ b hp => hp.cloneValue b
  hCloneNew := fun _ b t hp => hp.cloneNew b t
  hIntoInner := fun _ u hp => hp.into_inner u

def opIds : Op → List Nat
  | .create _ c => optId c.hdr ++ c.vals.map (·.id)
  | .iterCtor _ _ h sc => optId h ++ sc.items.map (·.id)
  | .writeSlot _ _ v => [v.id]
  | _ => []

def histIds (ops : List Op) : List Nat := ops.flatMap opIds

theorem ctor_elemIds (c : Ctor) : elemIds c.elems = c.vals.map (·.id) := by
  -- a constructor of the `new_uninit` family takes no values
  have hv : c.vals = if c.takesValues then c.vals else [] := by cases c <;> rfl
  rw [hv, Ctor.elems]
  split
  · exact elemIds_map_some _
  · exact elemIds_replicate_none _

theorem optId_hdrDrops (h : Option Item) : dropIds (hdrDrops h) = optId h := by
  cases h <;> rfl

theorem optId_hdrOf_sublist (w : IterCtor) (h : Option Item) : (optId (w.hdrOf h)).Sublist (optId h) := by
  cases w <;> first | exact List.Sublist.refl _ | exact List.nil_sublist _

theorem mem_elemIds {l : List (Option Item)} {i : Nat} (h : i ∈ elemIds l) : ∃ v : Item, some v ∈ l ∧ v.id = i := by
  simp only [elemIds, List.mem_filterMap] at h
  obtain ⟨e, he, hi⟩ := h
  cases e with
  | none => cases hi
  | some v => simp only [Option.map_some, Option.some.injEq] at hi; exact ⟨v, he, hi⟩

theorem take_drop_ids_ne {items : List Item} (hn : (items.map (·.id)).Nodup) {k : Nat} {a b : Item}
    (ha : a ∈ items.take k) (hb : b ∈ items.drop k) : a.id ≠ b.id := by
  rw [← List.take_append_drop k items, List.map_append, List.nodup_append] at hn
  exact hn.2.2 _ (List.mem_map_of_mem ha) _ (List.mem_map_of_mem hb)

theorem append_get (bs : List Block) (k0 : Block) (j : Nat) (k : Block) (hk : (bs ++ [k0])[j]? = some k) :
    bs[j]? = some k ∨ (j = bs.length ∧ k = k0) := by
  rcases Nat.lt_trichotomy j bs.length with h | h | h
  · exact .inl (List.getElem?_append_left h ▸ hk)
  · subst h; exact .inr ⟨rfl, Option.some.inj (hk.symm.trans List.getElem?_concat_length)⟩
  · rw [List.getElem?_eq_none (by rw [List.length_append]; exact h)] at hk; cases hk

section
variable {seen : List Nat} {s : State}

structure NewIds (seen : List Nat) (op : Op) : Prop where
  fresh : ∀ i, i ∈ opIds op → i ∉ seen ∧ i < cloneBase
  nodup : (opIds op).Nodup

namespace ValInvM

theorem widen {op : Op} (hv : ValInvM seen s.mem) (hn : NewIds seen op) : ValInvM (seen ++ opIds op) s.mem :=
  hv.weaken (fun _ h => List.mem_append_left _ h) fun i hi =>
    (List.mem_append.1 hi).elim (hv.seen_lt i) fun h => (hn.fresh i h).2

theorem handIn {op : Op} {s' : State} (hn : NewIds seen op) (hh : HandIn s op s') (hv : ValInvM seen s.mem) :
    ValInvM (seen ++ opIds op) s'.mem := by
  have hw := hv.widen hn
  have hf : ∀ i, i ∈ opIds op → FreshIn (seen ++ opIds op) s.mem i := fun i hi =>
    hv.fresh_of_new (hn.fresh i hi).1 (hn.fresh i hi).2 (List.mem_append_right _ hi)
  -- a block is born that stores some of the identities handed in
  have born : ∀ (k0 : Block) (b sz al : Nat), k0.live = true → k0.ids.Sublist (opIds op) →
      ValInvM (seen ++ opIds op) ⟨s.mem.blocks ++ [k0], s.mem.log ++ [.alloc b sz al], s.mem.nextClone⟩ :=
    fun k0 b sz al hl hsl => hw.append_block k0 b sz al [] (fun h => nomatch hl.symm.trans h) (fun _ _ => hsl.nodup hn.nodup)
      (fun i hi => hf i (hsl.subset hi)) List.nodup_nil fun _ h => absurd h List.not_mem_nil
  cases hh with
  | @create dst c lay _ _ => exact born _ _ _ _ rfl (.append (.refl _) (ctor_elemIds c ▸ .refl _))
  | @iterBuilt dst w h sc _ _ _ hc =>
    cases hc with
    | built lay _ => exact born _ _ _ _ rfl (.append (optId_hdrOf_sublist w h) (elemIds_map_some _ ▸ .refl _))
  | @iterPanicked dst w h sc _ _ hc =>
    have hdrop : ∀ k, (dropIds (dropsOf (sc.items.drop k))).Sublist (opIds (.iterCtor dst w h sc)) := fun k =>
      dropIds_dropsOf _ ▸ ((List.drop_sublist k sc.items).map _).trans (List.sublist_append_right ..)
    cases hc with
    | noBlock k cls => exact hw.emit _ ((hdrop k).nodup hn.nodup) fun i hi => hf i ((hdrop k).subset hi)
    | noAlloc n hal =>
      -- the layout panic: all the items (the iterator) and then the header are destroyed
      have hsl : (optId (w.hdrOf h) ++ sc.items.map (·.id)).Sublist (opIds (.iterCtor dst w h sc)) :=
        .append (optId_hdrOf_sublist w h) (.refl _)
      have hD : (dropIds (dropsOf sc.items ++ hdrDrops (w.hdrOf h))).Perm (optId (w.hdrOf h) ++ sc.items.map (·.id)) := by
        rw [dropIds_append, dropIds_dropsOf, optId_hdrDrops]
        exact List.perm_append_comm
      exact hw.emit _ (hD.nodup_iff.2 (hsl.nodup hn.nodup)) fun i hi => hf i (hsl.subset (hD.subset hi))
    | leaked lay rl es k cls hes =>
      rw [List.append_assoc]
      refine hw.append_block ⟨1, true, lay, w.hdrOf h, rl, es, true⟩ _ _ _ (dropsOf (sc.items.drop k))
        (fun h => nomatch h) (fun _ h => nomatch h) (fun i hi => hf i ?_) ((hdrop k).nodup hn.nodup)
        fun i hi => ⟨hf i ((hdrop k).subset hi), fun _ hik => ?_⟩
      · -- what was written into the block is the header or an item before index `k`
        rcases List.mem_append.1 hi with hi | hi
        · exact List.mem_append_left _ ((optId_hdrOf_sublist w h).subset hi)
        · obtain ⟨v, hv', rfl⟩ := mem_elemIds hi
          exact List.mem_append_right _ (List.mem_map_of_mem (List.mem_of_mem_take (hes v hv')))
      · rw [dropIds_dropsOf] at hi
        obtain ⟨x, hx, rfl⟩ := List.mem_map.1 hi
        rcases List.mem_append.1 hik with hik | hik
        · -- the header's identity is not an item's identity
          exact (List.nodup_append.1 hn.nodup).2.2 _ ((optId_hdrOf_sublist w h).subset hik) _
            (List.mem_map_of_mem (List.mem_of_mem_drop hx)) rfl
        · obtain ⟨v, hv', hvid⟩ := mem_elemIds hik
          exact take_drop_ids_ne (List.nodup_append.1 hn.nodup).2.1 (hes v hv') hx hvid
    | thinMismatch lay n1 hwt hne hal =>
      have hids : (⟨0, false, lay, h, some n1, sc.items.map some, false⟩ : Block).ids = opIds (.iterCtor dst w h sc) :=
        congrArg (optId h ++ ·) (elemIds_map_some _)
      have hD : dropIds (hdrDrops h ++ dropsOf sc.items ++
          [Event.dealloc s.mem.blocks.length (Ty.hwl.releaseLayout sc.items.length).size
            (Ty.hwl.releaseLayout sc.items.length).align]) = opIds (.iterCtor dst w h sc) := by
        rw [dropIds_append, dropIds_append, optId_hdrDrops, dropIds_dropsOf, dropIds_dealloc, List.append_nil]; rfl
      rw [List.append_assoc]
      exact hw.append_block ⟨0, false, lay, h, some n1, sc.items.map some, false⟩ _ _ _
        (hdrDrops h ++ dropsOf sc.items ++ [.dealloc ..]) (fun _ => rfl) (fun h => nomatch h)
        (fun i hi => hf i (hids ▸ hi)) (hD ▸ hn.nodup) fun i hi => ⟨hf i (hD ▸ hi), fun h => nomatch h⟩
  | @writeSlot src i v _ _ _ _ => exact hw.set_elem _ i v (hf _ (List.mem_singleton.2 rfl))
  | @writeRefused src i v => exact hw.emit [.drop v.id] hn.nodup hf

end ValInvM

theorem val_step (hi : Inv' s) (hv : ValInvM seen s.mem) (op : Op) (hn : NewIds seen op) :
    ValInvM (seen ++ opIds op) (step s op).1.mem := by
  rcases step_change s op with h | h
  · exact (valinvM_closed _).micros h hi (hv.widen hn)
  · exact hv.handIn hn h

end

end M1
