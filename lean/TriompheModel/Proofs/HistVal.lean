import TriompheModel.Proofs.HistValStep
import TriompheModel.Proofs.HistLen
/-!
# The value-level invariant of the sequential handle machine (M1)

"Every value's destructor runs at most once, values stored in live blocks have not been destroyed,
and nothing the caller did not hand in (or `Clone` did not create) is ever destroyed."

`ValInv seen s` (`= ValInvM seen s.mem`, `Proofs/HistValBase.lean`) where `seen` are the identities
handed in so far.  Proved for `State.init`, preserved by `step s op` for EVERY op whose own
identities are new, distinct and below the `Clone` range, hence true of `run ops` for every history
with `FreshIds ops` (what the generator guarantees; decidable).

Where a value leaves the model without a `.drop` event (so "at most once", not "exactly once"):
`UniqueArc::into_inner` / `try_unwrap` success (moved out to the caller), half-built blocks
abandoned by a panicking constructor (live + leaked for ever), `MaybeUninit` views dropped (only the
header is destroyed), a written slot overwritten by `writeSlot`, items a panicking `fillLoop` had
already taken.  `drop_releases_exactly` gives the "exactly" direction for a block released through
an initialised view.
-/
namespace M1

abbrev ValInv (seen : List Nat) (s : State) : Prop := ValInvM seen s.mem

/-- what the generator guarantees about a history: the identities it hands in are pairwise
distinct and below the first identity `Clone` hands out -/
def FreshIds (ops : List Op) : Prop := (histIds ops).Nodup ∧ ∀ i, i ∈ histIds ops → i < 1000000

instance (ops : List Op) : Decidable (FreshIds ops) := by unfold FreshIds; infer_instance

theorem valinv_step (seen : List Nat) (s : State) (op : Op) (hi : Inv s) (_hl : LenInv s)
    (hv : ValInv seen s) (hfresh : ∀ i, i ∈ opIds op → i ∉ seen ∧ i < 1000000) (hnd : (opIds op).Nodup) :
    ValInv (seen ++ opIds op) (step s op).1 :=
  val_step hi.toInv' hv op ⟨hfresh, hnd⟩

theorem histIds_cons (o : Op) (r : List Op) : histIds (o :: r) = opIds o ++ histIds r := by
  simp [histIds]

theorem valinv_run_from (ops : List Op) : ∀ (seen : List Nat) (s : State), Inv s → ValInv seen s →
    (histIds ops).Nodup → (∀ i, i ∈ histIds ops → i ∉ seen ∧ i < 1000000) →
    ValInv (seen ++ histIds ops) (ops.foldl (fun s o => (step s o).1) s) := by
  induction ops with
  | nil => intro seen s _ hv _ _; simpa [histIds] using hv
  | cons o r ih =>
    intro seen s hi hv hnd hfr
    rw [histIds_cons] at hnd hfr ⊢
    obtain ⟨hn1, hn2, hdis⟩ := List.nodup_append.1 hnd
    rw [← List.append_assoc]
    refine ih _ _ (inv_step s o hi) (val_step hi.toInv' hv o ⟨fun i h => hfr i (List.mem_append_left _ h), hn1⟩) hn2
      fun i h => ?_
    have := hfr i (List.mem_append_right _ h)
    exact ⟨fun hm => (List.mem_append.1 hm).elim this.1 fun hm => hdis i hm i h rfl, this.2⟩

theorem valinv_run (ops : List Op) (h : FreshIds ops) : ValInv (histIds ops) (run ops) := by
  have := valinv_run_from ops [] State.init inv_init ValInvM.init h.1 (fun i hi => ⟨by simp, h.2 i hi⟩)
  rw [List.nil_append] at this
  exact this

/-- [C07] no value is destroyed twice -/
theorem drop_at_most_once (ops : List Op) (h : FreshIds ops) : (dropIds (run ops).mem.log).Nodup :=
  (valinv_run ops h).drops_nodup

/-- what a live block (an abandoned one included) stores has not been destroyed -/
theorem live_values_not_destroyed (ops : List Op) (h : FreshIds ops) (b : Nat) (k : Block)
    (hk : (run ops).mem.blocks[b]? = some k) (hl : k.live = true) :
    ∀ i, i ∈ k.ids → i ∉ dropIds (run ops).mem.log :=
  (valinv_run ops h).placed_not_dropped b k hk hl

/-- only values the caller handed in, or that `Clone` created, are ever destroyed -/
theorem destroyed_values_were_handed_in (ops : List Op) (h : FreshIds ops) :
    ∀ i, i ∈ dropIds (run ops).mem.log → i ∈ histIds ops ∨ 1000000 ≤ i :=
  fun i hi => ((valinv_run ops h).known i (.inl hi)).imp_right And.left

/-- … and the same for everything stored in any block -/
theorem stored_values_were_handed_in (ops : List Op) (h : FreshIds ops) (b : Nat) (k : Block)
    (hk : (run ops).mem.blocks[b]? = some k) :
    ∀ i, i ∈ k.ids → i ∈ histIds ops ∨ (1000000 ≤ i ∧ i < (run ops).mem.nextClone) :=
  fun i hi => (valinv_run ops h).known i (Or.inr ⟨b, k, hk, hi⟩)

/-- two live blocks never store the same value; a live, not abandoned block stores each once -/
theorem live_blocks_disjoint (ops : List Op) (h : FreshIds ops) (b b' : Nat) (k k' : Block) (hne : b ≠ b')
    (hk : (run ops).mem.blocks[b]? = some k) (hk' : (run ops).mem.blocks[b']? = some k')
    (hl : k.live = true) (hl' : k'.live = true) : ∀ i, i ∈ k.ids → i ∉ k'.ids :=
  (valinv_run ops h).disjoint b b' k k' hne hk hk' hl hl'

theorem live_block_ids_nodup (ops : List Op) (h : FreshIds ops) (b : Nat) (k : Block)
    (hk : (run ops).mem.blocks[b]? = some k) (hl : k.live = true) (hlk : k.leaked = false) : k.ids.Nodup :=
  (valinv_run ops h).ids_nodup b k hk hl hlk

/-- memory level: the last `drop_inner` through an initialised view of the whole payload destroys
exactly the identities stored in the block, in order (header first) -/
theorem decr_last_drops_exactly (m : Mem) (b : Nat) (t : Ty) (len : Nat) (k : Block)
    (hk : m.blocks[b]? = some k) (hc : k.count = 1) (ht : t.elemsInit = true) (hlen : k.elems.length ≤ len) :
    dropIds (decr m b t len).log = dropIds m.log ++ k.ids := by
  rw [decr_log, hk]
  simp only [hc, if_true]
  rw [dropIds_append, dropIds_append, dropIds_payloadDrops_exact b k ht hlen, dropIds_dealloc, List.append_nil]

theorem decr_not_last_drops_nothing (m : Mem) (b : Nat) (t : Ty) (len : Nat) (k : Block)
    (hk : m.blocks[b]? = some k) (hc : k.count ≠ 1) : (decr m b t len).log = m.log := by
  rw [decr_log, hk]; simp [hc]

/-- [C01/C06] op level: dropping the ONLY handle to a block through a view whose elements are
initialised destroys exactly the values stored in the block, each once, header first, and the block
dies; (with `live_values_not_destroyed` none of them had been destroyed before) -/
theorem drop_releases_exactly (s : State) (src : Nat) (h : HV) (hi : Inv s) (hl : LenInv s)
    (hs : lookup s src = some h) (hown : owners s h.blk = 1) (hinit : (asArc s.mem h).ty.elemsInit = true)
    (hd : (dropHandle s.mem h).isSome = true) :
    ∃ k : Block, s.mem.blocks[h.blk]? = some k ∧
      dropIds (step s (.drop src)).1.mem.log = dropIds s.mem.log ++ k.ids := by
  obtain ⟨k, hk, _, _, hcnt⟩ := slot_block hi hs
  obtain ⟨k', hk', _, hvl⟩ := hl.viewLen_eq hs
  rw [hk] at hk'; cases hk'
  obtain ⟨m, hdh⟩ := Option.isSome_iff_exists.1 hd
  -- `Step.bad` does not say why an op is refused, so that this one is not is computed
  have e : step s (.drop src) = (s.del m src, ok) := by simp only [step, hs, hdh]
  refine ⟨k, hk, ?_⟩
  rw [e, dropHandle_eq hdh]
  show dropIds (Arc.drop s.mem (asArc s.mem h)).log = _
  rw [Arc.drop_eq, asArc_blk]
  exact decr_last_drops_exactly _ _ _ _ k hk (by rw [hcnt, hown]) hinit (by rw [hvl]; exact Nat.le_refl _)

theorem drop_shared_destroys_nothing (s : State) (src : Nat) (h : HV) (hi : Inv s)
    (hs : lookup s src = some h) (hown : owners s h.blk ≠ 1) :
    dropIds (step s (.drop src)).1.mem.log = dropIds s.mem.log := by
  obtain ⟨k, hk, _, _, hcnt⟩ := slot_block hi hs
  obtain ⟨r, e, hr⟩ := step_cases s (.drop src)
  rw [e]
  cases hr with
  | bad => rfl
  | drop hs' hd =>
    cases hs.symm.trans hs'
    rw [dropHandle_eq hd]
    show dropIds (Arc.drop s.mem (asArc s.mem h)).log = _
    rw [Arc.drop_eq, asArc_blk, decr_not_last_drops_nothing _ _ _ _ k hk (by rw [hcnt]; exact hown)]

/-! ## non-vacuity -/

/-- `make_mut` on a shared `Arc` (the clone gets identity 1000000), `try_unwrap` moving value 1 out,
an uninitialised slice partly written and dropped (value 2 is forgotten, not destroyed), an iterator
that over-reports its length (block 3 abandoned with header 3), one that panics in `next()` (block 4
abandoned, item 7 destroyed with the iterator), a header+slice built and dropped (8, 9, 10 destroyed
in order), finally the clone destroyed -/
def exampleValHistory : List Op :=
  [.create 0 (.new ⟨1, 10⟩), .clone 1 0, .makeMut 1 5 false, .tryUnwrap 0,
   .create 2 (.newUninitSlice 2), .writeSlot 2 0 ⟨2, 20⟩, .drop 2,
   .iterCtor 3 .hsFromIter (some ⟨3, 30⟩) ⟨[5], [], [⟨4, 40⟩, ⟨5, 50⟩], none⟩,
   .iterCtor 4 .fromIter none ⟨[], [], [⟨6, 60⟩, ⟨7, 70⟩], some 1⟩,
   .create 5 (.hsFromVec ⟨8, 80⟩ [⟨9, 90⟩, ⟨10, 100⟩]), .drop 5,
   .drop 1]

example : FreshIds exampleValHistory := by decide +kernel

example : histIds exampleValHistory = [1, 2, 3, 4, 5, 6, 7, 8, 9, 10] ∧
    dropIds (run exampleValHistory).mem.log = [7, 8, 9, 10, 1000000] ∧
    (run exampleValHistory).mem.blocks.map (fun k => (k.live, k.leaked, k.ids)) =
      [(false, false, [1]), (false, false, [1000000]), (false, false, [2]), (true, true, [3]),
       (true, true, []), (false, false, [8, 9, 10])] := by decide +kernel

example : ValInv (histIds exampleValHistory) (run exampleValHistory) :=
  valinv_run _ (by decide +kernel)

end M1
