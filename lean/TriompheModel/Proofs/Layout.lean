import TriompheModel.Model.Layout
/-!
# Layouts and addresses (M2)

`roundUp`, the shape of `reprC2` (the release side: the layout of the type), the request-side functions (`Layout::extend` +
`pad_to_align`) in closed form, and the hypotheses the property theorems use: `Layout.AlignIs`, `Layout.WF`, `WordBits`.
-/
namespace LY

theorem roundUp_eq_sub_mod (n a : Nat) : roundUp n a = n + a - 1 - (n + a - 1) % a := by
  have h := Nat.div_add_mod (n + a - 1) a
  rw [Nat.mul_comm] at h
  exact Nat.eq_sub_of_add_eq h

theorem le_roundUp (n : Nat) {a : Nat} (ha : 0 < a) : n ≤ roundUp n a := by
  have := Nat.mod_lt (n + a - 1) ha
  rw [roundUp_eq_sub_mod]; omega

theorem roundUp_lt (n : Nat) {a : Nat} (ha : 0 < a) : roundUp n a < n + a := by
  rw [roundUp_eq_sub_mod]; omega

theorem dvd_roundUp (n a : Nat) : a ∣ roundUp n a := ⟨(n + a - 1) / a, Nat.mul_comm _ _⟩

theorem roundUp_mod (n a : Nat) : roundUp n a % a = 0 := Nat.mod_eq_zero_of_dvd (dvd_roundUp n a)

theorem roundUp_zero (a : Nat) : roundUp 0 a = 0 := by
  rw [roundUp, Nat.zero_add, Nat.div_eq_zero_iff.mpr (by omega), Nat.zero_mul]

theorem roundUp_le_of_dvd {n a k : Nat} (ha : 0 < a) (hk : a ∣ k) (hn : n ≤ k) : roundUp n a ≤ k := by
  obtain ⟨q, rfl⟩ := hk
  rw [roundUp, Nat.mul_comm]
  exact Nat.mul_le_mul_left a ((Nat.div_le_iff_le_mul_add_pred ha).mpr (by omega))

theorem roundUp_unique {n a k : Nat} (hk : a ∣ k) (h1 : n ≤ k) (h2 : k < n + a) : roundUp n a = k := by
  obtain ⟨q, rfl⟩ := hk
  rw [Nat.mul_comm] at h1 h2 ⊢
  rw [roundUp, Nat.div_eq_of_lt_le (Nat.le_sub_one_of_lt h2) (by rw [Nat.succ_mul]; omega)]

theorem roundUp_of_dvd {n a : Nat} (ha : 0 < a) (h : a ∣ n) : roundUp n a = n :=
  roundUp_unique h (Nat.le_refl n) (Nat.lt_add_of_pos_right ha)

theorem roundUp_mono {m n a : Nat} (ha : 0 < a) (h : m ≤ n) : roundUp m a ≤ roundUp n a :=
  roundUp_le_of_dvd ha (dvd_roundUp n a) (Nat.le_trans h (le_roundUp n ha))

theorem roundUp_roundUp_of_dvd {n a m : Nat} (ha : 0 < a) (hm : 0 < m) (h : a ∣ m) :
    roundUp (roundUp n a) m = roundUp n m := by
  apply roundUp_unique (dvd_roundUp n m)
  · exact roundUp_le_of_dvd ha (Nat.dvd_trans h (dvd_roundUp n m)) (le_roundUp n hm)
  · have := roundUp_lt n hm
    have := le_roundUp n ha
    omega

theorem roundUp_add_left_of_dvd {x s a : Nat} (ha : 0 < a) (hx : a ∣ x) :
    roundUp (x + s) a = x + roundUp s a := by
  apply roundUp_unique ((Nat.dvd_add_right hx).mpr (dvd_roundUp s a))
  · have := le_roundUp s ha; omega
  · have := roundUp_lt s ha; omega

/-- Rust computes `(n + a - 1) & !(a - 1)`; over `Nat`, `x & !m = x - (x & m)` for a mask `m`, and
for `a = 2^e` this is the model's `roundUp` -/
theorem roundUp_eq_mask (n e : Nat) :
    roundUp n (2 ^ e) = (n + 2 ^ e - 1) - ((n + 2 ^ e - 1) &&& (2 ^ e - 1)) := by
  rw [roundUp_eq_sub_mod, Nat.and_two_pow_sub_one_eq_mod]

theorem max_pow2 (a b : Nat) : max (2 ^ a) (2 ^ b) = 2 ^ (max a b) := by
  simp only [Nat.max_def, Nat.pow_le_pow_iff_right (by decide : 1 < 2), apply_ite (2 ^ ·)]

theorem roundUp_pow2 (a b : Nat) : roundUp (2 ^ a) (2 ^ b) = max (2 ^ a) (2 ^ b) := by
  rw [max_pow2]
  apply roundUp_unique (Nat.pow_dvd_pow 2 (Nat.le_max_right a b))
    (Nat.pow_le_pow_right (by decide) (Nat.le_max_left a b))
  cases Nat.le_total a b with
  | inl h => rw [Nat.max_eq_right h]; exact Nat.lt_add_of_pos_left (Nat.two_pow_pos a)
  | inr h => rw [Nat.max_eq_left h]; exact Nat.lt_add_of_pos_right (Nat.two_pow_pos b)

/-! ## hypotheses of the property theorems (all decidable) -/

/-- the alignment of `l` is the power of two `2^e` (every Rust `Layout` has such an `e`) -/
def Layout.AlignIs (l : Layout) (e : Nat) : Prop := l.align = 2 ^ e
instance (l : Layout) (e : Nat) : Decidable (l.AlignIs e) := inferInstanceAs (Decidable (_ = _))

/-- size is a multiple of the alignment: guaranteed by Rust for the layout of every type (and of
`[T]`, `str`, `dyn Trait` values), but not for arbitrary `Layout` values such as the
un-padded result of `Layout::extend` -/
def Layout.WF (l : Layout) : Prop := l.align ∣ l.size
instance (l : Layout) : Decidable l.WF := inferInstanceAs (Decidable (_ ∣ _))

/-- `usize` has `bits = 8 * 2^k` bits with `k ≥ 1` (16-, 32-, 64-, … bit targets) -/
def WordBits (bits k : Nat) : Prop := 1 ≤ k ∧ bits = 8 * 2 ^ k
instance (bits k : Nat) : Decidable (WordBits bits k) := inferInstanceAs (Decidable (_ ∧ _))

theorem wordBits16 : WordBits 16 1 := by decide
theorem wordBits32 : WordBits 32 2 := by decide
theorem wordBits64 : WordBits 64 3 := by decide

theorem wordLayout_eq {bits k : Nat} (hb : WordBits bits k) : wordLayout bits = ⟨2 ^ k, 2 ^ k⟩ := by
  obtain ⟨_, rfl⟩ := hb
  unfold wordLayout
  rw [Nat.mul_div_cancel_left _ (by decide : 0 < 8)]

theorem Layout.AlignIs.eq {l : Layout} {e : Nat} (h : l.AlignIs e) : l.align = 2 ^ e := h

theorem Layout.AlignIs.pos {l : Layout} {e : Nat} (h : l.AlignIs e) : 0 < l.align := by
  rw [h.eq]; exact Nat.two_pow_pos e

theorem wordBits_of_real {bits : Nat} (h : bits = 16 ∨ bits = 32 ∨ bits = 64) : ∃ k, WordBits bits k := by
  rcases h with rfl | rfl | rfl
  · exact ⟨1, wordBits16⟩
  · exact ⟨2, wordBits32⟩
  · exact ⟨3, wordBits64⟩

section reprC2
variable {a b : Layout} {ea eb : Nat}

theorem reprC2_off (a b : Layout) : (reprC2 a b).2 = roundUp a.size b.align := rfl
theorem reprC2_align (a b : Layout) : (reprC2 a b).1.align = max a.align b.align := rfl
theorem reprC2_size (a b : Layout) :
    (reprC2 a b).1.size = roundUp (roundUp a.size b.align + b.size) (max a.align b.align) := rfl

theorem reprC2_alignIs (ha : a.AlignIs ea) (hb : b.AlignIs eb) :
    (reprC2 a b).1.AlignIs (max ea eb) := by
  rw [Layout.AlignIs, reprC2_align, ha.eq, hb.eq, max_pow2]

theorem headerSliceLayout_alignIs (ha : a.AlignIs ea) (hb : b.AlignIs eb) (len : Nat) :
    (headerSliceLayout a b len).1.AlignIs (max ea eb) := reprC2_alignIs (b := sliceLayout b len) ha hb

theorem reprC2_align_dvd_left (ha : a.AlignIs ea) (hb : b.AlignIs eb) :
    a.align ∣ (reprC2 a b).1.align := by
  rw [(reprC2_alignIs ha hb).eq, ha.eq]; exact Nat.pow_dvd_pow 2 (Nat.le_max_left ea eb)

theorem reprC2_align_dvd_right (ha : a.AlignIs ea) (hb : b.AlignIs eb) :
    b.align ∣ (reprC2 a b).1.align := by
  rw [(reprC2_alignIs ha hb).eq, hb.eq]; exact Nat.pow_dvd_pow 2 (Nat.le_max_right ea eb)

theorem reprC2_align_pos (ha : a.AlignIs ea) (hb : b.AlignIs eb) : 0 < (reprC2 a b).1.align :=
  (reprC2_alignIs ha hb).pos

theorem reprC2_wf (a b : Layout) : (reprC2 a b).1.WF := dvd_roundUp _ _

theorem reprC2_off_ge (hb : b.AlignIs eb) : a.size ≤ (reprC2 a b).2 := le_roundUp _ hb.pos

theorem reprC2_off_dvd (a b : Layout) : b.align ∣ (reprC2 a b).2 := dvd_roundUp _ _

theorem reprC2_fits (ha : a.AlignIs ea) (hb : b.AlignIs eb) :
    (reprC2 a b).2 + b.size ≤ (reprC2 a b).1.size :=
  le_roundUp _ (reprC2_align_pos ha hb)

theorem reprC2_tight (ha : a.AlignIs ea) (hb : b.AlignIs eb) :
    (reprC2 a b).1.size < (reprC2 a b).2 + b.size + (reprC2 a b).1.align :=
  roundUp_lt _ (reprC2_align_pos ha hb)

/-- a struct whose first field is `()` has the layout of its second field, at offset 0
(header erasure: `HeaderSlice<(), T>` vs `T`) -/
theorem reprC2_unit {p : Layout} {e : Nat} (hp : p.AlignIs e) (hwf : p.WF) :
    reprC2 unitLayout p = (p, 0) := by
  have hpos := hp.pos
  have hmax : max 1 p.align = p.align := Nat.max_eq_right hpos
  unfold reprC2 unitLayout
  simp only [roundUp_zero, Nat.zero_add, hmax, roundUp_of_dvd hpos hwf]

/-- the slice instance: `HeaderSlice<(), [T]>` vs `[T]` for every `len` -/
theorem headerSliceLayout_unit {t : Layout} {e : Nat} (ht : t.AlignIs e) (hwf : t.WF) (len : Nat) :
    headerSliceLayout unitLayout t len = (sliceLayout t len, 0) :=
  reprC2_unit (p := sliceLayout t len) ht (Nat.dvd_trans hwf (Nat.dvd_mul_right _ _))

end reprC2

/-! ## `Layout::extend` + `pad_to_align` against `reprC2`

Each request-side function is `some` of the repr(C) layout if the size checks pass, else `none`. -/

theorem extend_eq (bits : Nat) (l next : Layout) :
    Layout.extend bits l next =
      if (reprC2 l next).2 + next.size ≤ maxSize bits (max l.align next.align) then
        some (⟨(reprC2 l next).2 + next.size, max l.align next.align⟩, (reprC2 l next).2)
      else none := rfl

theorem extend_some {bits : Nat} {l next : Layout} {r : Layout × Nat}
    (h : Layout.extend bits l next = some r) :
    r = (⟨roundUp l.size next.align + next.size, max l.align next.align⟩, roundUp l.size next.align) ∧
    roundUp l.size next.align + next.size ≤ maxSize bits (max l.align next.align) := by
  obtain ⟨hle, hr⟩ := Option.ite_none_right_eq_some.mp (extend_eq bits l next ▸ h)
  exact ⟨(Option.some.inj hr).symm, hle⟩

theorem extend_pad_eq_reprC2 {bits : Nat} {l next : Layout} {r : Layout × Nat}
    (h : Layout.extend bits l next = some r) :
    r.1.padToAlign = (reprC2 l next).1 ∧ r.2 = (reprC2 l next).2 := by
  obtain ⟨rfl, _⟩ := extend_some h
  exact ⟨rfl, rfl⟩

theorem extend_none_iff {bits : Nat} {l next : Layout} :
    Layout.extend bits l next = none ↔
      maxSize bits (max l.align next.align) < roundUp l.size next.align + next.size := by
  rw [extend_eq, ite_eq_right_iff]
  simp only [reprC2_off, reduceCtorEq, imp_false, Nat.not_le]

theorem array_some {bits : Nat} {elem : Layout} {n : Nat} {arr : Layout}
    (h : Layout.array bits elem n = some arr) :
    arr = sliceLayout elem n ∧ elem.size * n ≤ maxSize bits elem.align := by
  obtain ⟨hle, hr⟩ := Option.ite_none_right_eq_some.mp h
  exact ⟨(Option.some.inj hr).symm, hle⟩

theorem array_none_iff {bits : Nat} {elem : Layout} {n : Nat} :
    Layout.array bits elem n = none ↔ maxSize bits elem.align < elem.size * n := by
  rw [Layout.array, ite_eq_right_iff]
  simp only [reduceCtorEq, imp_false, Nat.not_le]

theorem extend_padToAlign (bits : Nat) (l next : Layout) :
    (Layout.extend bits l next).map (·.1.padToAlign) =
      if (reprC2 l next).2 + next.size ≤ maxSize bits (max l.align next.align) then some (reprC2 l next).1
      else none := by
  rw [extend_eq]
  exact apply_ite (Option.map _) ..

theorem allocLayoutFor_eq (bits : Nat) (v : Layout) :
    allocLayoutFor bits v =
      if (arcInnerLayout bits v).2 + v.size ≤ maxSize bits (max (wordLayout bits).align v.align) then
        some (arcInnerLayout bits v).1
      else none := extend_padToAlign bits (wordLayout bits) v

theorem offsetOfData_eq (bits : Nat) (v : Layout) :
    offsetOfData bits v =
      if (arcInnerLayout bits v).2 + v.size ≤ maxSize bits (max (wordLayout bits).align v.align) then
        some (arcInnerLayout bits v).2
      else none := by
  rw [offsetOfData, extend_eq]
  exact apply_ite (Option.map _) ..

theorem headerSliceValueLayout_eq (bits : Nat) (h t : Layout) (len : Nat) :
    headerSliceValueLayout bits h t len =
      if t.size * len ≤ maxSize bits t.align ∧
          (headerSliceLayout h t len).2 + t.size * len ≤ maxSize bits (max h.align t.align) then
        some (headerSliceLayout h t len).1
      else none := by
  rw [headerSliceValueLayout, Layout.array]
  by_cases h1 : t.size * len ≤ maxSize bits t.align
  · simp only [h1, if_true, true_and]; exact extend_padToAlign bits h (sliceLayout t len)
  · rw [if_neg h1, if_neg fun hc => h1 hc.1]

/-- the three size checks: the array, header + array, count word + payload -/
theorem allocLayoutHeaderSlice_eq (bits : Nat) (h t : Layout) (len : Nat) :
    allocLayoutHeaderSlice bits h t len =
      if t.size * len ≤ maxSize bits t.align ∧
          (headerSliceLayout h t len).2 + t.size * len ≤ maxSize bits (max h.align t.align) ∧
          (arcInnerLayout bits (headerSliceLayout h t len).1).2 + (headerSliceLayout h t len).1.size ≤
            maxSize bits (max (wordLayout bits).align (headerSliceLayout h t len).1.align) then
        some (arcInnerLayout bits (headerSliceLayout h t len).1).1
      else none := by
  rw [allocLayoutHeaderSlice, headerSliceValueLayout_eq]
  by_cases h12 : t.size * len ≤ maxSize bits t.align ∧
      (headerSliceLayout h t len).2 + t.size * len ≤ maxSize bits (max h.align t.align)
  · simp only [h12, if_true, true_and]; exact allocLayoutFor_eq bits _
  · rw [if_neg h12, if_neg fun hc => h12 ⟨hc.1, hc.2.1⟩]

theorem allocLayoutFor_some {bits : Nat} {v L : Layout} (h : allocLayoutFor bits v = some L) :
    L = (arcInnerLayout bits v).1 ∧
    offsetOfData bits v = some (arcInnerLayout bits v).2 ∧
    (arcInnerLayout bits v).2 + v.size ≤ maxSize bits (max (wordLayout bits).align v.align) := by
  obtain ⟨hle, hr⟩ := Option.ite_none_right_eq_some.mp (allocLayoutFor_eq bits v ▸ h)
  exact ⟨(Option.some.inj hr).symm, by rw [offsetOfData_eq, if_pos hle], hle⟩

theorem allocLayoutHeaderSlice_some {bits : Nat} {h t : Layout} {len : Nat} {L : Layout}
    (hL : allocLayoutHeaderSlice bits h t len = some L) :
    allocLayoutFor bits (headerSliceLayout h t len).1 = some L ∧
    t.size * len ≤ maxSize bits t.align ∧
    (headerSliceLayout h t len).2 + t.size * len ≤ maxSize bits (max h.align t.align) := by
  obtain ⟨hle, hr⟩ := Option.ite_none_right_eq_some.mp (allocLayoutHeaderSlice_eq bits h t len ▸ hL)
  exact ⟨by rw [allocLayoutFor_eq, if_pos hle.2.2, hr], hle.1, hle.2.1⟩

/-- request = release: what `allocate_for_header_and_slice` requests is the type layout of the `ArcInner` -/
theorem allocLayoutHeaderSlice_some_eq {bits : Nat} {h t : Layout} {len : Nat} {L : Layout}
    (hL : allocLayoutHeaderSlice bits h t len = some L) : L = (arcInnerLayout bits (headerSliceLayout h t len).1).1 :=
  (allocLayoutFor_some (allocLayoutHeaderSlice_some hL).1).1

section arcInner
variable {bits k : Nat} {p : Layout} {e : Nat}

theorem word_alignIs (hb : WordBits bits k) : (wordLayout bits).AlignIs k := by
  unfold Layout.AlignIs; rw [wordLayout_eq hb]

theorem thinPayload_alignIs {H T : Layout} {eH eT : Nat} (hb : WordBits bits k) (hH : H.AlignIs eH)
    (hT : T.AlignIs eT) (len : Nat) : (thinPayload bits H T len).1.AlignIs (max (max eH k) eT) :=
  headerSliceLayout_alignIs (reprC2_alignIs hH (word_alignIs hb)) hT len

theorem word_size (hb : WordBits bits k) : (wordLayout bits).size = 2 ^ k := by
  rw [wordLayout_eq hb]

theorem word_align (hb : WordBits bits k) : (wordLayout bits).align = 2 ^ k := by
  rw [wordLayout_eq hb]

theorem dataOff_ge_word (hp : p.AlignIs e) :
    (wordLayout bits).size ≤ (arcInnerLayout bits p).2 := reprC2_off_ge hp

theorem dataOff_headerSlice (bits : Nat) (h t : Layout) (len : Nat) :
    (arcInnerLayout bits (headerSliceLayout h t len).1).2 = roundUp (wordLayout bits).size (max h.align t.align) := rfl

theorem dataOff_thin (bits : Nat) (H T : Layout) (len : Nat) :
    (arcInnerLayout bits (thinPayload bits H T len).1).2 = (arcInnerLayout bits (thinPayload bits H T 0).1).2 :=
  (dataOff_headerSlice bits _ T len).trans (dataOff_headerSlice bits _ T 0).symm

theorem dataOff_dvd (bits : Nat) (p : Layout) : p.align ∣ (arcInnerLayout bits p).2 :=
  reprC2_off_dvd _ _

theorem arcInner_align_dvd_payload (hb : WordBits bits k) (hp : p.AlignIs e) :
    p.align ∣ (arcInnerLayout bits p).1.align := reprC2_align_dvd_right (word_alignIs hb) hp

theorem arcInner_align_dvd_word (hb : WordBits bits k) (hp : p.AlignIs e) :
    (wordLayout bits).align ∣ (arcInnerLayout bits p).1.align :=
  reprC2_align_dvd_left (word_alignIs hb) hp

theorem arcInner_fits (hb : WordBits bits k) (hp : p.AlignIs e) :
    (arcInnerLayout bits p).2 + p.size ≤ (arcInnerLayout bits p).1.size :=
  reprC2_fits (word_alignIs hb) hp

theorem dataAddr_aligned (hb : WordBits bits k) (hp : p.AlignIs e) {base : Nat}
    (hbase : (arcInnerLayout bits p).1.align ∣ base) :
    p.align ∣ base + (arcInnerLayout bits p).2 :=
  (Nat.dvd_add_right (Nat.dvd_trans (arcInner_align_dvd_payload hb hp) hbase)).mpr (dataOff_dvd bits p)

/-- the count word is as large as it is aligned, so `data` sits at the alignment of `ArcInner` -/
theorem arcInner_off_eq_align (hb : WordBits bits k) (hp : p.AlignIs e) :
    (arcInnerLayout bits p).2 = (arcInnerLayout bits p).1.align := by
  show roundUp (wordLayout bits).size p.align = max (wordLayout bits).align p.align
  rw [word_size hb, word_align hb, hp.eq]
  exact roundUp_pow2 k e

theorem block_align_even (hb : WordBits bits k) (hp : p.AlignIs e) :
    2 ∣ (arcInnerLayout bits p).1.align :=
  Nat.dvd_trans (by rw [word_align hb]; exact Nat.pow_dvd_pow 2 hb.1) (arcInner_align_dvd_word hb hp)

theorem dataOff_even (hb : WordBits bits k) (hp : p.AlignIs e) : 2 ∣ (arcInnerLayout bits p).2 :=
  arcInner_off_eq_align hb hp ▸ block_align_even hb hp

end arcInner

/-! ## the padded size of a valid request never exceeds `isize::MAX - (align - 1)` -/

/-- `maxSize bits (2^e)` is a multiple of the alignment (`0` if the alignment exceeds `2^(bits-1)`): why padding a
valid size keeps it valid -/
theorem dvd_maxSize (bits e : Nat) : 2 ^ e ∣ maxSize bits (2 ^ e) := by
  rw [maxSize]
  cases Nat.lt_or_ge (bits - 1) e with
  | inl hlt =>
    rw [Nat.sub_eq_zero_of_le (Nat.pow_le_pow_right (by decide) (Nat.le_of_lt hlt))]; exact Nat.dvd_zero _
  | inr hge => exact Nat.dvd_sub (Nat.pow_dvd_pow 2 hge) (Nat.dvd_refl _)

theorem roundUp_le_maxSize {bits x m : Nat} (hm : ∃ e, m = 2 ^ e) (hx : x ≤ maxSize bits m) :
    roundUp x m ≤ maxSize bits m := by
  obtain ⟨e, rfl⟩ := hm
  exact roundUp_le_of_dvd (Nat.two_pow_pos e) (dvd_maxSize bits e) hx

end LY
