import TriompheModel.Proofs.HistLemmasPrim
import TriompheModel.Proofs.HistLemmas
import TriompheModel.Proofs.Micro
import TriompheModel.Proofs.CbStep
/-!
# Every state change preserves the count invariant

`Inv' s` is the invariant in pointwise form (`InvC` over the core view of `s.mem`); `Proofs/HistInv`
shows it equivalent to the declared `Inv s`.  The transitions of `InvC` are restated for states; `CbP` is what a callback
script maintains (the invariant, and the lending slot still refers to the transient's block); `Inv'.micro` and
`Inv'.handIn` check the state changes of `Proofs/Micro.lean` one by one.
-/
namespace M1

def Inv' (s : State) : Prop := InvC (cv s.mem) s.slots

theorem lookup_mem {s : State} {i : Nat} {h : HV} (hl : lookup s i = some h) : (i, h) ∈ s.slots :=
  lookupL_mem hl

theorem lookup_none {s : State} {i : Nat} (hl : lookup s i = none) : ∀ e ∈ s.slots, e.1 ≠ i :=
  lookupL_none.1 hl

namespace Inv'
variable {s : State}

theorem of {m : Mem} {sl : Slots} {c : Nat → Option Core} (hc : cv m = c) (h : InvC c sl) : Inv' ⟨m, sl⟩ := by
  subst hc; exact h

theorem init : Inv' State.init := .of (funext fun _ => rfl) InvC.init

theorem view (hi : Inv' s) {i : Nat} {h : HV} (hl : lookup s i = some h) :
    cv s.mem h.blk = some (owners s h.blk, true, false) :=
  InvC.owned hi (lookup_mem hl)

theorem loadCount_eq (hi : Inv' s) {i : Nat} {h : HV} (hl : lookup s i = some h) :
    loadCount s.mem h.blk = owners s h.blk :=
  loadCount_of_cv (hi.view hl)

theorem slot_block (hi : Inv' s) {i : Nat} {h : HV} (hl : lookup s i = some h) :
    ∃ k, s.mem.blocks[h.blk]? = some k ∧ k.live = true ∧ k.leaked = false ∧ k.count = owners s h.blk := by
  obtain ⟨k, hk, hc⟩ := cv_eq_some (hi.view hl)
  simp only [Block.core, Prod.mk.injEq] at hc
  exact ⟨k, hk, hc.2.1, hc.2.2, hc.1⟩

theorem blk_lt (hi : Inv' s) {i : Nat} {h : HV} (hl : lookup s i = some h) : h.blk < s.mem.blocks.length := by
  have := hi.view hl
  rw [← cv_isSome_iff, this]; rfl

theorem frame (hi : Inv' s) {m' : Mem} (hm : cv m' = cv s.mem) : Inv' ⟨m', s.slots⟩ := .of hm hi

theorem acquire (hi : Inv' s) {dst src : Nat} {h0 h : HV} {m' : Mem} (hd : lookup s dst = none)
    (hs : lookup s src = some h0) (hk0 : h0.kind ≠ .uniq) (hb : h.blk = h0.blk) (hk : h.kind ≠ .uniq)
    (hm : cv m' = setAt (cv s.mem) h0.blk ((cv s.mem h0.blk).map incC)) : Inv' (s.put m' dst h) :=
  .of hm (InvC.acquire hi (lookup_none hd) (lookup_mem hs) rfl hk0 hb hk)

theorem release (hi : Inv' s) {src : Nat} {h : HV} {m' : Mem} (hs : lookup s src = some h)
    (hm : cv m' = setAt (cv s.mem) h.blk ((cv s.mem h.blk).map decC)) : Inv' (s.del m' src) :=
  .of hm (InvC.release hi (lookup_mem hs))

theorem retag (hi : Inv' s) {src : Nat} {h h' : HV} {m' : Mem} (hs : lookup s src = some h)
    (hb : h'.blk = h.blk) (hu : h'.kind = .uniq → h.kind = .uniq ∨ loadCount s.mem h.blk = 1)
    (hm : cv m' = cv s.mem) : Inv' (s.set m' src h') := by
  refine .of hm (InvC.retag hi (lookup_mem hs) hb fun hk => ?_)
  rcases hu hk with h1 | h1
  · exact hi.uniq _ (lookup_mem hs) h1
  · rw [hi.loadCount_eq hs] at h1; exact h1

theorem alloc_put (hi : Inv' s) {dst : Nat} {h : HV} {m' : Mem} (hd : lookup s dst = none)
    (hm : cv m' = setAt (cv s.mem) s.mem.blocks.length (some (1, true, false)))
    (hb : h.blk = s.mem.blocks.length) : Inv' (s.put m' dst h) :=
  .of hm (InvC.alloc_put hi (cv_length _) (lookup_none hd) hb)

theorem junk (hi : Inv' s) (k : Block) (hj : k.live = false ∨ k.leaked = true) (log : List Event) (nc : Nat) :
    Inv' ⟨⟨s.mem.blocks ++ [k], log, nc⟩, s.slots⟩ :=
  .of (cv_append ..) (InvC.alloc_junk hi (cv_length _) hj)

theorem move_out (hi : Inv' s) {src : Nat} {h : HV} {m' : Mem} (hs : lookup s src = some h)
    (hu : loadCount s.mem h.blk = 1)
    (hm : cv m' = setAt (cv s.mem) h.blk ((cv s.mem h.blk).map deadC)) : Inv' (s.del m' src) := by
  apply hi.release hs
  rw [hm]
  have hv := hi.view hs
  rw [hi.loadCount_eq hs] at hu
  rw [hv, hu]; rfl

theorem redirect (hi : Inv' s) {src : Nat} {h h' : HV} {m' : Mem} (hs : lookup s src = some h)
    (hb : h'.blk = s.mem.blocks.length)
    (hm : cv m' = setAt (setAt (cv s.mem) s.mem.blocks.length (some (1, true, false))) h.blk
      ((cv s.mem h.blk).map decC)) : Inv' (s.set m' src h') :=
  .of hm (InvC.redirect hi (lookup_mem hs) (cv_length _) hb)

theorem swap (hi : Inv' s) {src k : Nat} {hs h2 hk' hs' : HV} (hls : lookup s src = some hs)
    (hlk : lookup s k = some h2) (hne : k ≠ src) (hbk : hk'.blk = hs.blk) (hbs : hs'.blk = h2.blk)
    (hkk : hk'.kind ≠ .uniq) (hks : hs'.kind ≠ .uniq) :
    Inv' ((s.set s.mem k hk').set s.mem src hs') :=
  .of rfl (InvC.swap hi (lookup_mem hls) (lookup_mem hlk) hne hbk hbs hkk hks)

theorem replace (hi : Inv' s) {src k : Nat} {hs h2 h' : HV} {m' : Mem} (hls : lookup s src = some hs)
    (hlk : lookup s k = some h2) (hne : k ≠ src) (hb : h'.blk = h2.blk) (hk' : h'.kind ≠ .uniq)
    (hm : cv m' = setAt (cv s.mem) hs.blk ((cv s.mem hs.blk).map decC)) :
    Inv' ((s.del m' k).set m' src h') :=
  .of hm (InvC.replace hi (lookup_mem hls) (lookup_mem hlk) hne hb hk')

end Inv'

theorem clone_arc_borrow (m : Mem) (p : HV) :
    ArcBorrow.clone_arc m p = (incr m p.blk, Arc.from_raw m p) := rfl

theorem clone_arc_offset (m : Mem) (o : HV) :
    OffsetArc.clone_arc m o = (incr m o.blk, { OffsetArc.transient m o with kind := .arc }) := rfl

/-- `make_mut` through the `Arc` view `a` of slot `src`, the result written back as `h'`: whatever the kind of `h'`, its
block has one owner (the gate said so, or the block is fresh) -/
theorem make_mut_inv {s : State} (hi : Inv' s) {src : Nat} {h : HV} (hs : lookup s src = some h) {a : HV}
    (ha : a.blk = h.blk) {cp : Bool} {m' : Mem} {f : HV} (hmm : Arc.make_mut s.mem a cp = (m', some f))
    {h' : HV} (hb' : h'.blk = f.blk) : Inv' (s.set m' src h') := by
  cases make_mut_graph hmm with
  | unique hu => exact hi.retag hs (hb'.trans ha) (fun _ => .inr (ha ▸ (is_unique_iff_loadCount ..).1 hu)) rfl
  | redirected =>
    -- the fresh block is born with count 1; the old one, which is another, loses one owner
    refine hi.redirect hs (hb'.trans (length_cloneValue ..)) ?_
    rw [Arc.drop_eq, cv_decr, cv_arc_new, cv_cloneValue, length_cloneValue,
      setAt_ne _ _ (ha ▸ Nat.ne_of_lt (hi.blk_lt hs)), ha]

theorem runConv_spec {m : Mem} {h h' : HV} {c : Conv} (hc : runConv m h c = some h') :
    h'.blk = h.blk ∧ (h'.kind = .uniq → h.kind = .uniq) := by
  cases runConv_graph hc with
  -- the casts of the view type keep the kind, the others return a kind that is not `uniq`
  | eraseHeader | addHeader | assumeMu | assumeMuSlice | assumeHsMu | toDynUniq => exact ⟨rfl, id⟩
  | _ => exact ⟨rfl, nofun⟩

theorem transientOf_spec {m : Mem} {api : CbApi} {h t : HV} (ht : transientOf m api h = some t) :
    t.blk = h.blk ∧ h.kind ≠ .uniq := by
  cases transientOf_graph ht with
  | rawOffset hg | borrowArc hg => exact ⟨rfl, fun e => nomatch hg.1.symm.trans e⟩
  | offsetWithArc hg | thinWithArc hg | thinWithArcMut hg => exact ⟨rfl, fun e => nomatch hg.symm.trans e⟩
  | borrowUnion hg => exact ⟨rfl, fun e => hg.elim (fun hg => nomatch hg.symm.trans e) fun hg => nomatch hg.symm.trans e⟩

theorem lookup_put_ne {s : State} {m : Mem} {k i : Nat} {c : HV} (hne : k ≠ i) :
    lookup (s.put m k c) i = lookup s i := lookupL_cons_ne hne

theorem lookup_set_self {s : State} {src : Nat} {h : HV} (hs : lookup s src = some h) (m : Mem) (h' : HV) :
    lookup (s.set m src h') src = some h' := by
  rw [lookup_eq, set_slots, lookupL_setL_self, ← lookup_eq, hs]; rfl

def Lends (s : State) (src : Nat) (t : HV) : Prop :=
  ∃ hs, lookup s src = some hs ∧ hs.blk = t.blk ∧ hs.kind ≠ .uniq

theorem Lends.put {s : State} {src : Nat} {t : HV} (hl : Lends s src t) {k : Nat} (hk : lookup s k = none)
    (m : Mem) (c : HV) : Lends (s.put m k c) src t := by
  obtain ⟨hs, h1, h2, h3⟩ := hl
  have hne : k ≠ src := fun e => nomatch (e ▸ hk).symm.trans h1
  exact ⟨hs, (lookup_put_ne hne).trans h1, h2, h3⟩

def CbP (src : Nat) (s : State) (t : HV) : Prop := Inv' s ∧ Lends s src t

theorem CbP.start {src : Nat} {s : State} {api : CbApi} {h t : HV} (hi : Inv' s) (hs : lookup s src = some h)
    (ht : transientOf s.mem api h = some t) : CbP src s t :=
  ⟨hi, h, hs, (transientOf_spec ht).1.symm, (transientOf_spec ht).2⟩

theorem CbP.cloneTo {src : Nat} {s : State} {t : HV} (hp : CbP src s t) {k : Nat} {m : Mem} {c : HV}
    (hk : lookup s k = none) (hc : cloneHandle s.mem t = some (m, c)) (api : CbApi) :
    CbP src (s.put m k (if api = .thinWithArcMut then ThinArc.of_arc c else c)) t := by
  have hl := hp.2
  obtain ⟨hi, hs, hls, hbs, hks⟩ := hp
  obtain ⟨rfl, h2, h3, _⟩ := cloneHandle_spec hc
  refine ⟨hi.acquire hk hls hks ?_ ?_ (hbs ▸ cv_incr ..), hl.put hk _ _⟩
  · split <;> exact h2.trans hbs.symm
  · split
    · exact nofun
    · exact h3

theorem CbP.cloneArc {src : Nat} {s : State} {t : HV} (hp : CbP src s t) {k : Nat} (hk : lookup s k = none) :
    CbP src (s.put (incr s.mem t.blk) k { OffsetArc.transient s.mem t with kind := .arc }) t := by
  have hl := hp.2
  obtain ⟨hi, hs, hls, hbs, hks⟩ := hp
  exact ⟨hi.acquire hk hls hks hbs.symm nofun (hbs ▸ cv_incr ..), hl.put hk _ _⟩

theorem CbP.write {src : Nat} {s : State} {t : HV} (hp : CbP src s t) (v : Nat) :
    CbP src ⟨writeVal s.mem t.blk v, s.slots⟩ t :=
  ⟨hp.1.frame (cv_writeVal ..), hp.2⟩

theorem CbP.repl {src : Nat} {s : State} {t : HV} (hp : CbP src s t) {k : Nat} {h2 : HV} (hne : k ≠ src)
    (hlk : lookup s k = some h2) :
    CbP src ((s.del (Arc.drop s.mem t) k).set (Arc.drop s.mem t) src (ThinArc.of_arc (ThinArc.thick s.mem h2)))
      (ThinArc.thick s.mem h2) := by
  obtain ⟨hi, hs, hls, hbs, hks⟩ := hp
  refine ⟨hi.replace hls hlk hne rfl nofun (by rw [Arc.drop_eq, cv_decr, hbs]),
    ThinArc.of_arc (ThinArc.thick s.mem h2), ?_, rfl, nofun⟩
  rw [lookup_eq, set_slots, del_slots, lookupL_setL_self, lookupL_delL, if_neg (Ne.symm hne), ← lookup_eq, hls]
  rfl

theorem CbP.swap {src : Nat} {s : State} {t : HV} (hp : CbP src s t) {k : Nat} {h2 : HV} (hne : k ≠ src)
    (hlk : lookup s k = some h2) :
    CbP src ((s.set s.mem k (ThinArc.of_arc t)).set s.mem src (ThinArc.of_arc (ThinArc.thick s.mem h2)))
      (ThinArc.thick s.mem h2) := by
  obtain ⟨hi, hs, hls, hbs, hks⟩ := hp
  refine ⟨hi.swap hls hlk hne hbs.symm rfl nofun nofun, ThinArc.of_arc (ThinArc.thick s.mem h2), ?_, rfl, nofun⟩
  rw [lookup_eq, set_slots, set_slots, lookupL_setL_self, lookupL_setL_ne _ _ (Ne.symm hne), ← lookup_eq, hls]
  rfl

theorem CbStep.cbp {api : CbApi} {src : Nat} {s s' : State} {t t' : HV} {a : CbAct} {tk : Mon.CbTok} {piece : String}
    (h : CbStep api src s t a s' t' tk piece) (hp : CbP src s t) : CbP src s' t' := by
  cases h with
  | cnt | read | skip | mutNone => exact hp
  | cloned hk hc => exact hp.cloneTo hk hc api
  | clonedArc hk _ => exact hp.cloneArc hk
  | mutSome => exact hp.write _
  | replaced _ hne hk _ => exact hp.repl hne hk
  | swapped _ hne hk _ => exact hp.swap hne hk

theorem Inv'.micro {s s' : State} (hm : Micro s s') (hi : Inv' s) : Inv' s' := by
  cases hm with
  | clone hd hs hc =>
    obtain ⟨rfl, h2, h3, h4⟩ := cloneHandle_spec hc
    exact hi.acquire hd hs h4 h2 h3 (cv_incr ..)
  | cloneArc hd hs hk =>
    exact hi.acquire hd hs (by rcases hk with ⟨hk, _⟩ | hk | hk | hk <;> rw [hk] <;> decide) (asArc_blk ..)
      (by unfold asArc; split <;> nofun) (cv_incr ..)
  | release hs => exact hi.release hs (by rw [Arc.drop_eq, cv_decr, asArc_blk])
  | conv hs hc => exact hi.retag hs (runConv_spec hc).1 (fun hk => Or.inl ((runConv_spec hc).2 hk)) rfl
  | intoThin hs _ _ _ => exact hi.retag hs rfl (fun hk => by cases hk) rfl
  | tryUnique hs _ hu => exact hi.retag hs rfl (fun _ => Or.inr ((is_unique_iff_loadCount ..).1 hu)) rfl
  | write b v => exact hi.frame (cv_writeVal ..)
  | moveOut hs _ hu =>
    refine hi.move_out hs ?_ (cv_into_inner ..)
    rcases hu with hu | ⟨_, hu⟩
    · rw [hi.loadCount_eq hs]; exact hi.uniq _ (lookup_mem hs) hu
    · exact (is_unique_iff_loadCount ..).1 hu
  | cloneVal b => exact hi.frame (cv_cloneValue ..)
  | makeMut hs _ _ hm => exact make_mut_inv hi hs rfl hm rfl
  | makeMutOffset hs _ hm => exact make_mut_inv hi hs (a := Arc.from_raw_offset s.mem _) rfl hm rfl
  | cb script acc hs ht =>
    exact (runCb_preserves _ _ (CbP _) CbStep.cbp script s _ acc (.start hi hs ht)).elim fun _ h => h.1

theorem Inv'.handIn {s s' : State} {op : Op} (hh : HandIn s op s') (hi : Inv' s) : Inv' s' := by
  cases hh with
  | create hd _ => exact hi.alloc_put hd (cv_allocBlock ..) (Ctor.handle_blk ..)
  | iterBuilt hd hc => cases hc; exact hi.alloc_put hd (cv_append ..) rfl
  | iterPanicked hc =>
    cases hc with
    | noBlock | noAlloc => exact hi.frame rfl
    | leaked => exact hi.junk _ (.inr rfl) ..
    | thinMismatch => exact hi.junk _ (.inl rfl) ..
  | writeSlot => exact hi.frame (cv_upd_content _ _ _ (fun _ => rfl))
  | writeRefused => exact hi.frame rfl

theorem inv'_step {s : State} (hi : Inv' s) (op : Op) : Inv' (step s op).1 :=
  step_preserves Inv'.micro Inv'.handIn hi op

/-- `step_preserves` for an invariant that needs the count invariant -/
theorem step_preserves_inv {X : State → Prop} (hm : ∀ {s s'}, Micro s s' → Inv' s → X s → X s')
    (hh : ∀ {s op s'}, HandIn s op s' → X s → X s') {s : State} (hi : Inv' s) (hs : X s) (op : Op) : X (step s op).1 :=
  (step_preserves (P := fun s => Inv' s ∧ X s) (fun h q => ⟨q.1.micro h, hm h q.1 q.2⟩)
    (fun h q => ⟨q.1.handIn h, hh h q.2⟩) ⟨hi, hs⟩ op).2

/-- `run_preserves` for such an invariant -/
theorem run_preserves_inv {X : State → Prop} (h0 : X State.init)
    (hs : ∀ {s : State}, Inv' s → X s → ∀ op, X (step s op).1) (ops : List Op) : X (run ops) :=
  (run_preserves (P := fun s => Inv' s ∧ X s) ⟨.init, h0⟩ (fun _ op h => ⟨inv'_step h.1 op, hs h.1 h.2 op⟩) ops).2

end M1
