import TriompheModel.Proofs.HistLenBase
import TriompheModel.Proofs.StepGraph
/-!
# Addresses stored in handle values

`h.off` is the offset of the address stored in a handle value from the start of its block.  `OffOk h`: handles of the
block-address kinds (`Arc`, `UniqueArc`, `ThinArc`, raw thin pointer) store the block start; handles of the data-address
kinds (raw pointer, `OffsetArc`, `ArcUnion` word) store the address of the value, `dataOff` of their view.  Every handle
function of the model preserves it; `M1.Off.*` are the round trips of the conversions as functions.
-/
namespace M1

/-- the slice length a fat (non-thin) handle's view sees: a function of the handle alone -/
def fatLen (h : HV) : Nat := if h.ty.isSlicey then h.len else 1

def Kind.isBlockAddr : Kind → Bool
  | .arc | .uniq | .thin | .rawThin => true
  | _ => false

theorem isThin_blockAddr {k : Kind} (h : k.isThin = true) : k.isBlockAddr = true := by
  cases k <;> first | rfl | cases h

theorem isBlockAddr_iff {k : Kind} : k.isBlockAddr = true ↔ k = .arc ∨ k = .uniq ∨ k = .thin ∨ k = .rawThin := by
  cases k <;> decide

theorem isBlockAddr_false_iff {k : Kind} :
    k.isBlockAddr = false ↔ k = .raw ∨ k = .offset ∨ k = .unionA ∨ k = .unionB := by
  cases k <;> decide

structure OffOk (h : HV) : Prop where
  blk : h.kind.isBlockAddr = true → h.off = 0
  data : h.kind.isBlockAddr = false → h.off = h.ty.dataOff (fatLen h)

theorem viewLen_eq_fatLen {m : Mem} {h : HV} (hk : h.kind.isThin = false) : viewLen m h = fatLen h :=
  viewLen_fat hk

theorem nonthin_of_data {k : Kind} (h : k.isBlockAddr = false) : k.isThin = false :=
  Bool.eq_false_iff.2 fun ht => nomatch (isThin_blockAddr ht).symm.trans h

namespace Off

theorem as_ptr_off_eq (m : Mem) {a : HV} (hk : a.kind.isThin = false) :
    Arc.as_ptr_off m a = a.off + a.ty.dataOff (fatLen a) := by
  simp only [Arc.as_ptr_off, viewLen_eq_fatLen hk]

theorem into_raw_off (m : Mem) {a : HV} (hk : a.kind.isThin = false) :
    (Arc.into_raw m a).off = a.off + a.ty.dataOff (fatLen a) := as_ptr_off_eq m hk

theorem from_raw_off (m : Mem) {p : HV} (hk : p.kind.isThin = false) :
    (Arc.from_raw m p).off = p.off - p.ty.dataOff (fatLen p) := by
  simp only [Arc.from_raw, viewLen_eq_fatLen hk]

/-- `from_raw` on the word of an `OffsetArc` / `ArcUnion` (`from_raw_offset`, `OffsetArc::with_arc`, `ArcUnion::borrow`) -/
theorem from_raw_word_off (m : Mem) (h : HV) :
    (Arc.from_raw m { h with kind := .raw }).off = h.off - h.ty.dataOff (fatLen h) :=
  from_raw_off m (p := { h with kind := .raw }) rfl

/-- `Arc::into_raw(Arc::from_raw(p)) = p` for a pointer that `into_raw` produced (`off = dataOff`) -/
theorem into_raw_from_raw_id (m : Mem) (p : HV) (hk : p.kind = .raw)
    (hoff : p.ty.dataOff (fatLen p) ≤ p.off) : Arc.into_raw m (Arc.from_raw m p) = p := by
  cases p with
  | mk kind ty blk off len =>
    subst hk
    simp only [fatLen] at hoff
    simp only [Arc.into_raw, Arc.from_raw, Arc.as_ptr_off, viewLen]
    rw [Nat.sub_add_cancel hoff]

theorem from_raw_offset_into_raw_offset_id (m : Mem) (a : HV) (hk : a.kind = .arc) :
    Arc.from_raw_offset m (Arc.into_raw_offset m a) = a := from_raw_of_arc hk

theorem thin_from_raw_into_raw_id (t : HV) (hk : t.kind = .thin) : ThinArc.from_raw (ThinArc.into_raw t) = t :=
  kind_eta hk

theorem thin_into_raw_from_raw_id (p : HV) (hk : p.kind = .rawThin) : ThinArc.into_raw (ThinArc.from_raw p) = p :=
  kind_eta hk

/-- `into_thin(thin_to_thick(t)) = t` for a well-formed ThinArc value -/
theorem of_arc_thick_id (m : Mem) (t : HV) (hk : t.kind = .thin) (hty : t.ty = .hwl) (hl : t.len = 0) :
    ThinArc.of_arc (ThinArc.thick m t) = t := by
  cases t; simp only at hk hty hl; subst hk hty hl; rfl

/-- `thin_to_thick(into_thin(a)) = a` when the stored length is the fat pointer's length -/
theorem thick_of_arc_id (m : Mem) (a : HV) (hk : a.kind = .arc) (hty : a.ty = .hwl)
    (hl : ((m.blocks[a.blk]?.bind (·.recLen))).getD 0 = a.len) : ThinArc.thick m (ThinArc.of_arc a) = a := by
  cases a with
  | mk kind ty blk off len =>
    simp only at hk hty hl; subst hk hty
    simp only [ThinArc.thick, ThinArc.of_arc, viewLen, hl]

end Off

section
variable {m : Mem} {h : HV}

namespace OffOk

theorem of_blk {h : HV} (hk : h.kind.isBlockAddr = true) (ho : h.off = 0) : OffOk h where
  blk := fun _ => ho
  data := fun h' => by rw [hk] at h'; cases h'

theorem of_data {h : HV} (hk : h.kind.isBlockAddr = false) (ho : h.off = h.ty.dataOff (fatLen h)) : OffOk h where
  blk := fun h' => by rw [hk] at h'; cases h'
  data := fun _ => ho

/-- what `from_raw` computes from the stored word is the block start; on a block address the subtraction stops at 0 -/
theorem sub (ho : OffOk h) : h.off - h.ty.dataOff (fatLen h) = 0 := by
  cases hb : h.kind.isBlockAddr with
  | true => rw [ho.blk hb]; exact Nat.zero_sub _
  | false => rw [ho.data hb]; exact Nat.sub_self _

/-- `into_raw`-style: a block-address fat handle becomes a data-address one (of a view with the same field offset) -/
theorem toData (ho : OffOk h) (hk : h.kind = .arc) {h' : HV} (hk' : h'.kind.isBlockAddr = false)
    (hd : h'.ty.dataOff (fatLen h') = h.ty.dataOff (fatLen h)) (hoff : h'.off = Arc.as_ptr_off m h) : OffOk h' := by
  apply OffOk.of_data hk'
  rw [hoff, Off.as_ptr_off_eq m (by rw [hk]; rfl), ho.blk (by rw [hk]; rfl), hd, Nat.zero_add]

/-- `from_raw`-style: the word of any handle becomes a block address -/
theorem toBlk (ho : OffOk h) {h' : HV} (hk' : h'.kind.isBlockAddr = true)
    (hoff : h'.off = h.off - h.ty.dataOff (fatLen h)) : OffOk h' :=
  OffOk.of_blk hk' (hoff.trans ho.sub)

theorem blkBlk (ho : OffOk h) (hk : h.kind.isBlockAddr = true) {h' : HV} (hk' : h'.kind.isBlockAddr = true)
    (hoff : h'.off = h.off) : OffOk h' :=
  OffOk.of_blk hk' (by rw [hoff]; exact ho.blk hk)

theorem retype (ho : OffOk h) (hk : h.kind.isBlockAddr = true) (t : Ty) : OffOk { h with ty := t } :=
  ho.blkBlk hk hk rfl

theorem dataData (ho : OffOk h) (hk : h.kind.isBlockAddr = false) {h' : HV} (hk' : h'.kind.isBlockAddr = false)
    (hty : h'.ty = h.ty) (hlen : h'.len = h.len) (hoff : h'.off = h.off) : OffOk h' := by
  apply OffOk.of_data hk'
  have hf : fatLen h' = fatLen h := by simp only [fatLen, hty, hlen]
  rw [hoff, hty, hf]; exact ho.data hk

end OffOk

theorem asArc_off (ho : OffOk h) : (asArc m h).off = 0 := by
  unfold asArc
  cases hk : h.kind <;> simp only
  case arc | uniq | thin | rawThin => exact ho.blk (by rw [hk]; rfl)
  case raw => exact (Off.from_raw_off m (by rw [hk]; rfl)).trans ho.sub
  case offset | unionA | unionB => exact (Off.from_raw_word_off m h).trans ho.sub

theorem OffOk.asArc (ho : OffOk h) : OffOk (asArc m h) :=
  OffOk.of_blk (by rw [asArc_kind]; rfl) (asArc_off ho)

theorem asArc_data (m : Mem) (hd : h.kind.isBlockAddr = false) :
    asArc m h = { h with kind := .arc, off := h.off - h.ty.dataOff (fatLen h) } := by
  cases h with
  | mk k t b o l => cases k <;> first | rfl | cases hd

theorem dataOff_dyn_sized (n n' : Nat) : Ty.dyn.dataOff n = Ty.sized.dataOff n' := rfl

theorem cloneHandle_off {m' : Mem} {c : HV} (hc : cloneHandle m h = some (m', c)) (ho : OffOk h) : OffOk c := by
  obtain ⟨kd, t, b, o, l⟩ := h
  cases kd <;> cases hc
  case arc | thin => exact ho.blkBlk rfl rfl rfl
  -- `OffsetArc` and `ArcUnion`: `from_raw`, `clone`, `into_raw`
  all_goals
    exact (ho.toBlk (h' := Arc.from_raw m ⟨.raw, t, b, o, l⟩) rfl (Off.from_raw_off m rfl)).toData
      (m := incr m b) rfl rfl rfl rfl

theorem runConv_off {h' : HV} {c : Conv} (hc : runConv m h c = some h') (ho : OffOk h) : OffOk h' := by
  cases runConv_graph hc with
  | intoRaw hg | intoRawOffset hg | unionFirst hg | unionSecond hg => exact ho.toData (m := m) hg.1 rfl rfl rfl
  | fromRaw hg => exact ho.toBlk rfl (Off.from_raw_off m (by rw [hg]; rfl))
  | fromRawOffset => exact ho.toBlk rfl (Off.from_raw_word_off m h)
  | fromThin hg | thinIntoRaw hg | thinFromRaw hg => exact ho.blkBlk (by rw [hg]; rfl) rfl rfl
  | shareable hg => exact ho.blkBlk (by rw [hg.1]; rfl) rfl rfl
  | eraseHeader hg | addHeader hg | toDynUniq hg => exact ho.retype (by rw [hg.1]; rfl) _
  | assumeMu hg | assumeMuSlice hg | assumeHsMu hg => exact ho.retype (by rcases hg.1 with hk | hk <;> rw [hk] <;> rfl) _
  | toDynArc hg =>
    -- `into_raw` through the sized view, `from_raw` through the `dyn` view: the same field offset
    exact (ho.toData (m := m) hg.1 (h' := { Arc.into_raw m h with ty := .dyn }) rfl
      (by rw [hg.2]; exact dataOff_dyn_sized _ _) rfl).toBlk rfl (Off.from_raw_off m rfl)

end

end M1
