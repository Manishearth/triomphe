import TriompheModel.Model.Ops
import TriompheModel.Proofs.HistLemmasStep
import TriompheModel.Proofs.HistLemmasLogStep
/-!
# The invariant of the sequential handle machine (M1) and its preservation by every op

`Inv s` relates the count *words* in memory to the *owning handle values* in the slot table.  It is
the refinement invariant from which the history halves of C01, C03, C04, C08, C09, C10, C12, C15
follow (Props/C*.lean).  Proved for `State.init`, preserved by `step s op` for EVERY op (including
callback scripts, iterator-scripted constructors with panics/lies, panicking `Clone`), hence true
of `run ops` for every finite history `ops`.

It is proved in the pointwise form `Inv'`, once per state change (`Proofs/HistLemmasStep.lean`); this file
shows `Inv s ↔ Inv' s` and states the results.
-/
namespace M1

structure Inv (s : State) : Prop where
  /-- the count word of a live, non-abandoned block equals the number of owning handle values that
  refer to it (all kinds, raw pointers included), and such a block has at least one owner -/
  cnt  : ∀ (b : Nat) (k : Block), s.mem.blocks[b]? = some k → k.live = true → k.leaked = false →
          k.count = owners s b ∧ 0 < k.count
  /-- nothing refers to a block that has been returned to the allocator -/
  dead : ∀ (b : Nat) (k : Block), s.mem.blocks[b]? = some k → k.live = false → owners s b = 0
  /-- nothing refers to a half-built block abandoned by a panicking constructor -/
  leak : ∀ (b : Nat) (k : Block), s.mem.blocks[b]? = some k → k.leaked = true → owners s b = 0
  /-- every handle value points into an existing block -/
  inb  : ∀ e, e ∈ s.slots → e.2.blk < s.mem.blocks.length
  /-- slot numbers are unique -/
  keys : (s.slots.map (·.1)).Nodup
  /-- a `UniqueArc` is the only owner of its block -/
  uniq : ∀ e, e ∈ s.slots → e.2.kind = .uniq → owners s e.2.blk = 1

theorem Inv.toInv' {s : State} (h : Inv s) : Inv' s where
  good := by
    intro b c lv lk hc
    obtain ⟨k, hk, hcore⟩ := cv_eq_some hc
    simp only [Block.core, Prod.mk.injEq] at hcore
    obtain ⟨rfl, rfl, rfl⟩ := hcore
    exact ⟨h.cnt b k hk, h.dead b k hk, h.leak b k hk⟩
  inb := fun e he hn => Nat.not_le_of_gt (h.inb e he) ((cv_eq_none_iff ..).1 hn)
  keys := h.keys
  uniq := h.uniq

theorem Inv'.toInv {s : State} (h : Inv' s) : Inv s where
  cnt := fun b _ hk hl hlk => (h.good b _ _ _ (cv_of_get hk)).1 hl hlk
  dead := fun b _ hk hl => (h.good b _ _ _ (cv_of_get hk)).2.1 hl
  leak := fun b _ hk hl => (h.good b _ _ _ (cv_of_get hk)).2.2 hl
  inb := fun e he => Nat.lt_of_not_le fun hle => h.inb e he ((cv_eq_none_iff ..).2 hle)
  keys := h.keys
  uniq := h.uniq

theorem inv_iff (s : State) : Inv s ↔ Inv' s := ⟨Inv.toInv', Inv'.toInv⟩

theorem inv_init : Inv State.init := Inv'.init.toInv

theorem inv_step (s : State) (op : Op) (h : Inv s) : Inv (step s op).1 :=
  (inv'_step h.toInv' op).toInv

theorem inv_run_from (s : State) (h : Inv s) (ops : List Op) :
    Inv (ops.foldl (fun s o => (step s o).1) s) := steps_preserve inv_step ops s h

theorem inv_run (ops : List Op) : Inv (run ops) := inv_run_from _ inv_init ops

theorem slot_block {s : State} (hi : Inv s) {i : Nat} {h : HV} (hl : lookup s i = some h) :
    ∃ k, s.mem.blocks[h.blk]? = some k ∧ k.live = true ∧ k.leaked = false ∧ k.count = owners s h.blk :=
  hi.toInv'.slot_block hl

/-- [C04] the count word read through any slot handle is the number of owning handle values -/
theorem count_eq_owners {s : State} (hi : Inv s) {i : Nat} {h : HV} (hl : lookup s i = some h) :
    loadCount s.mem h.blk = owners s h.blk ∧
      ∃ k, s.mem.blocks[h.blk]? = some k ∧ k.live = true ∧ k.leaked = false := by
  obtain ⟨k, hk, h1, h2, _⟩ := slot_block hi hl
  exact ⟨hi.toInv'.loadCount_eq hl, k, hk, h1, h2⟩

theorem strong_count_eq_owners {s : State} (hi : Inv s) {i : Nat} {h : HV} (hl : lookup s i = some h) :
    Arc.strong_count s.mem (asArc s.mem h) = owners s h.blk ∧
    Arc.count s.mem (asArc s.mem h) = owners s h.blk := by
  simp only [Arc.strong_count, Arc.count, asArc_blk]
  exact ⟨hi.toInv'.loadCount_eq hl, hi.toInv'.loadCount_eq hl⟩

/-- [C03] `is_unique` answers `true` exactly when the handle is the only owner -/
theorem is_unique_iff {s : State} (hi : Inv s) {i : Nat} {h : HV} (hl : lookup s i = some h) :
    Arc.is_unique s.mem (asArc s.mem h) = true ↔ owners s h.blk = 1 := by
  rw [is_unique_iff_loadCount, asArc_blk, hi.toInv'.loadCount_eq hl]

theorem is_unique_owners {s : State} {h : HV} (hc : loadCount s.mem h.blk = owners s h.blk) :
    Arc.is_unique s.mem h = (owners s h.blk == 1) := by
  rw [← hc]; rfl

theorem unique_owners {s : State} (hi : Inv s) {src : Nat} {h : HV} (hl : lookup s src = some h)
    (hu : Arc.is_unique s.mem h = true) : owners s h.blk = 1 :=
  beq_iff_eq.1 ((is_unique_owners (count_eq_owners hi hl).1).symm.trans hu)

theorem shared_owners {s : State} (hi : Inv s) {src : Nat} {h : HV} (hl : lookup s src = some h)
    (hu : Arc.is_unique s.mem h = false) : owners s h.blk ≠ 1 := by
  intro e
  rw [is_unique_owners (count_eq_owners hi hl).1, e] at hu
  cases hu

theorem not_unique {s : State} (hi : Inv s) {src : Nat} {h : HV} (hl : lookup s src = some h)
    (ho : owners s h.blk ≠ 1) : Arc.is_unique s.mem h = false :=
  (is_unique_owners (count_eq_owners hi hl).1).trans (beq_false_of_ne ho)

/-- [C01] a (non-abandoned) block is live exactly as long as some handle value owns it -/
theorem live_iff_owned {s : State} (hi : Inv s) {b : Nat} {k : Block} (hk : s.mem.blocks[b]? = some k)
    (hlk : k.leaked = false) : k.live = true ↔ 0 < owners s b := by
  constructor
  · intro hl
    obtain ⟨h1, h2⟩ := hi.cnt b k hk hl hlk
    exact h1 ▸ h2
  · exact fun hp => Bool.of_not_eq_false fun hlv => Nat.ne_of_gt hp (hi.dead b k hk hlv)

/-- an abandoned (leaked) block is never referred to, so no op frees or touches it again -/
theorem leaked_unowned {s : State} (hi : Inv s) {b : Nat} {k : Block} (hk : s.mem.blocks[b]? = some k)
    (hlk : k.leaked = true) : owners s b = 0 := hi.leak b k hk hlk

theorem owners_fresh {s : State} (hi : Inv s) : owners s s.mem.blocks.length = 0 :=
  ownersL_eq_zero fun e he heq => Nat.lt_irrefl _ (heq ▸ hi.inb e he)

theorem uniq_count_one {s : State} (hi : Inv s) {i : Nat} {h : HV} (hl : lookup s i = some h)
    (hu : h.kind = .uniq) : loadCount s.mem h.blk = 1 := by
  rw [hi.toInv'.loadCount_eq hl]; exact hi.uniq _ (lookup_mem hl) hu

/-! ## the allocation log (`LogInv`, `Proofs/HistLemmasLog.lean`)

`LogInv` does not say which layout a `dealloc` event records: it is `t.releaseLayout len` of the releasing view
(`decr_log`, `into_inner_log`, `dropHandle_eq`); that this is the `alloc` layout is `dealloc_layout_eq_alloc_layout`
(`Proofs/HistLen.lean`). -/

theorem loginv_step (s : State) (op : Op) (h : Inv s) (hl : LogInv s.mem) : LogInv (step s op).1.mem :=
  log_step h.toInv' hl op

theorem loginv_run (ops : List Op) : LogInv (run ops).mem :=
  run_preserves_inv (X := fun s => LogInv s.mem) LogInv.init log_step ops

section LogFacts
variable {m : Mem} (hl : LogInv m)
include hl

theorem dealloc_le_one (b : Nat) : m.log.countP (isDealloc b) ≤ 1 := by
  cases hk : m.blocks[b]? with
  | none =>
    rw [hl.ndo b (List.getElem?_eq_none_iff.1 hk)]
    exact Nat.zero_le 1
  | some k =>
    rw [hl.nd b k hk]
    split <;> omega

/-- two `dealloc` events of the same block are the same event: no double free -/
theorem dealloc_unique {i j b sz al sz' al' : Nat} (hi : m.log[i]? = some (Event.dealloc b sz al))
    (hj : m.log[j]? = some (Event.dealloc b sz' al')) : i = j :=
  countP_le_one_unique (dealloc_le_one hl b) hi (beq_self_eq_true b) hj (beq_self_eq_true b)

theorem dealloc_iff_dead {b : Nat} {k : Block} (hk : m.blocks[b]? = some k) :
    (∃ sz al : Nat, Event.dealloc b sz al ∈ m.log) ↔ k.live = false := by
  have h := hl.nd b k hk
  cases hlv : k.live <;> rw [hlv] at h
  · exact ⟨fun _ => rfl, fun _ => exists_dealloc (h ▸ Nat.zero_lt_one)⟩
  · exact ⟨fun ⟨_, _, hm⟩ => absurd (beq_self_eq_true b) (List.countP_eq_zero.1 h _ hm), fun h => nomatch h⟩

theorem dealloc_inb {b sz al : Nat} (hm : Event.dealloc b sz al ∈ m.log) : b < m.blocks.length :=
  Nat.lt_of_not_le fun h => List.countP_eq_zero.1 (hl.ndo b h) _ hm (beq_self_eq_true b)

theorem alloc_unique {i j b sz al sz' al' : Nat} (hi : m.log[i]? = some (Event.alloc b sz al))
    (hj : m.log[j]? = some (Event.alloc b sz' al')) : i = j := by
  have : m.log.countP (isAlloc b) ≤ 1 := by
    rw [hl.na b]
    split <;> omega
  exact countP_le_one_unique this hi (beq_self_eq_true b) hj (beq_self_eq_true b)

theorem alloc_before_dealloc {i j b sz al sz' al' : Nat} (hi : m.log[i]? = some (Event.dealloc b sz al))
    (hj : m.log[j]? = some (Event.alloc b sz' al')) : j < i := by
  obtain ⟨j', hlt, sz'', al'', hj'⟩ := hl.ord i b sz al hi
  rw [alloc_unique hl hj hj']; exact hlt

theorem alloc_layout {b sz al : Nat} (hm : Event.alloc b sz al ∈ m.log) :
    ∃ k : Block, m.blocks[b]? = some k ∧ k.lay = ⟨sz, al⟩ := hl.lay b sz al hm

end LogFacts

/-! ## non-vacuity: a concrete history in which the invariant says something -/

/-- two owners (a raw pointer and a clone made inside a `with_arc` callback) of block 0 after the
original `Arc` was dropped; block 1 was a `UniqueArc` consumed by `into_inner` -/
def exampleHistory : List Op :=
  [.create 0 (.new ⟨1, 7⟩), .clone 1 0, .conv 1 .intoRaw, .create 2 (.uniqueNew ⟨2, 8⟩),
   .withCb 0 .borrowWithArc [.cloneTo 5, .cnt], .drop 0, .intoInner 2]

example : owners (run exampleHistory) 0 = 2 ∧ loadCount (run exampleHistory).mem 0 = 2 ∧
    owners (run exampleHistory) 1 = 0 ∧
    (run exampleHistory).mem.log = [.alloc 0 16 8, .alloc 1 16 8, .dealloc 1 16 8] := by decide

example : Inv (run exampleHistory) ∧ LogInv (run exampleHistory).mem :=
  ⟨inv_run _, loginv_run _⟩

end M1
