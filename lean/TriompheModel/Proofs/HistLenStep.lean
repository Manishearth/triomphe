import TriompheModel.Proofs.HistLenMem
import TriompheModel.Proofs.SlotLaw
/-!
# Every op keeps handles well-typed

`TyInvG wl wd s`: every slot's handle views its block at the real length (`LenOk`), and — with `wl` — releases it with the
requested layout (`LayOk`); with `wd`, every `dealloc` event in the log records the layout its block was requested with
(`DL`).  It has the shape of `Proofs/SlotLaw.lean`: `tyLaw` cites, for each primitive memory operation, that memory is
extended (`Ext`, `Proofs/HistLenMem.lean`) and, for each handle function, its lemma of `Proofs/HistLenBase.lean`;
`TyInvG.handIn`: a constructor returns a well-typed handle.  One proof serves all three settings of the switches (`wd → wl`).
-/
namespace M1

def TyQ (wl : Prop) (m : Mem) (h : HV) : Prop := ∃ k : Block, m.blocks[h.blk]? = some k ∧ Ok wl h k.shape

def TyInvG (wl wd : Prop) (s : State) : Prop := Holds (fun m => wd → DL m) (TyQ wl) s

variable {wl wd : Prop}

theorem asArc_ty {m : Mem} {h : HV} {sh : Shape} (ho : LenOk h sh) : (asArc m h).ty = h.ty := by
  obtain ⟨kd, _, _, _, _⟩ := h
  cases kd
  case thin | rawThin => exact (ho.thin rfl).1.symm
  all_goals rfl

namespace Ok

theorem of_shape {h : HV} {sh sh' : Shape} (ho : Ok wl h sh) (he : sh' = sh) : Ok wl h sh' := he ▸ ho

/-- the premise of `Ext.arc_drop` / `Ext.into_inner`: a well-typed view releases with the requested layout -/
theorem release_now {m : Mem} {a : HV} {k : Block} (ho : Ok wl a k.shape)
    (hk : m.blocks[a.blk]? = some k) (hwd : wd → wl) :
    wd → ∀ k1 : Block, m.blocks[a.blk]? = some k1 → a.ty.releaseLayout (viewLen m a) = k1.lay := by
  intro hw k1 hk1
  rw [hk] at hk1; cases hk1
  exact ho.release hk (hwd hw)

end Ok

theorem Ext.next {m m' : Mem} (he : Ext wd m m') : Next (fun m => wd → DL m) (TyQ wl) m m' :=
  ⟨fun h w => he.dl w (h w), fun _ ⟨k, hk, ho⟩ => (he.st _ k hk).elim fun k' h' => ⟨k', h'.1, ho.of_shape h'.2⟩⟩

theorem tyLaw (hwd : wd → wl) : SlotLaw (fun m => wd → DL m) (TyQ wl) where
  mIncr := fun _ => (Ext.incr ..).next
  mDrop := fun _ ⟨_, hk, ho⟩ => (Ext.arc_drop _ _ (ho.release_now hk hwd)).next
  mWrite := fun _ _ _ => (Ext.writeVal ..).next
  mCloneVal := fun _ _ => (Ext.cloneValue ..).next
  mMoveOut := fun _ ⟨_, hk, ho⟩ => (Ext.into_inner _ _ (ho.release_now hk hwd)).next
  mCloneNew := fun {m h} ⟨_, _, ho⟩ hg => by
    have hns : (asArc m h).ty.isSlicey = false := by
      rw [asArc_ty ho.1, hg.elim (·.2) ho.1.off]; rfl
    exact ⟨((Ext.cloneValue ..).trans (Ext.alloc ..)).next, _, List.getElem?_concat_length,
      ok_sized_new hns rfl (by decide)⟩
  qClone := fun hc ⟨k, hk, ho⟩ => ⟨k, (cloneHandle_spec hc).2.1 ▸ hk, cloneHandle_ok hc ho⟩
  qAsArc := fun ⟨k, hk, ho⟩ => ⟨k, asArc_ok ho hk⟩
  qConv := fun hc ⟨k, hk, ho⟩ => ⟨k, (runConv_spec hc).1 ▸ hk, runConv_ok hc ho hk⟩
  qIntoThin := fun hkd hty hr ⟨k, hk, ho⟩ => by
    refine ⟨k, hk, ho.toThin hty ?_ rfl hty⟩
    -- the test `into_thin` makes: the stored length word is the length the fat pointer carries
    obtain ⟨r, (hr' : k.recLen = some r)⟩ := Option.ne_none_iff_exists'.1 (ho.1.hasRl hty)
    rw [hk, Option.bind_some, hr'] at hr
    exact hr'.trans (congrArg some (hr.trans (ho.1.fat (isThin_of_eq hkd rfl) (hty ▸ rfl))))
  qUniq := fun ⟨k, hk, ho⟩ hkd =>
    ⟨k, hk, ho.rekind (hkd.elim (isThin_of_eq · rfl) (isThin_of_eq · rfl)) rfl rfl rfl nofun⟩
  qOffBack := fun ⟨_, _, ho⟩ hkd ⟨k', hk', ho'⟩ hfk hft =>
    ⟨k', hk', ho'.rekind (isThin_of_eq hfk rfl) rfl rfl rfl fun _ => hft.trans ((asArc_ty ho.1).trans (ho.1.off hkd))⟩

namespace TyInvG
variable {s : State} {m' : Mem}

theorem hok (ht : TyInvG wl wd s) : ∀ e, e ∈ s.slots → ∃ k : Block, s.mem.blocks[e.2.blk]? = some k ∧ Ok wl e.2 k.shape :=
  ht.2

theorem dl (ht : TyInvG wl wd s) : wd → DL s.mem := ht.1

theorem init : TyInvG wl wd State.init := ⟨fun _ _ _ _ hm => (nomatch hm), fun _ he => (nomatch he)⟩

theorem micro {s s' : State} (hm : Micro s s') (hi : Inv' s) (ht : TyInvG wl wd s) (hwd : wd → wl) : TyInvG wl wd s' :=
  (tyLaw hwd).micro hm hi ht

theorem handIn {s s' : State} {op : Op} (hh : HandIn s op s') (ht : TyInvG wl wd s) : TyInvG wl wd s' := by
  have hn := (hh.ext (wd := wd)).next (wl := wl)
  cases hh with
  | create _ hc => exact ht.put hn _ ⟨_, by rw [Ctor.handle_blk]; exact List.getElem?_concat_length, ctor_ok _ hc _⟩
  | @iterBuilt _ w _ _ _ _ _ hc =>
    cases hc with
    | built lay hal =>
      exact ht.put hn _ ⟨_, List.getElem?_concat_length,
        (iter_ok w hal _).of_shape (by simp only [Block.shape, List.length_map])⟩
  | iterPanicked | writeSlot | writeRefused => exact ht.frame hn

end TyInvG

theorem ty_step {s : State} (hi : Inv' s) (ht : TyInvG wl wd s) (hwd : wd → wl) (op : Op) : TyInvG wl wd (step s op).1 :=
  step_preserves_inv (fun hm hi h => h.micro hm hi hwd) TyInvG.handIn hi ht op

end M1
