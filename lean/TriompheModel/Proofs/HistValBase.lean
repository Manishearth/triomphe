import TriompheModel.Proofs.Ctor
import TriompheModel.Proofs.HistLemmas
/-!
# The value-level invariant of the handle machine and the memory operations

`ValInvM seen m`: no identity is destroyed twice (`.drop` events), identities stored in live blocks are pairwise distinct
and have not been destroyed, and every identity that is stored or destroyed was handed in by the caller (`seen`) or
created by `Clone` (`cloneBase ≤ i < nextClone`).  `ValInvM.change` checks the fields once, for a memory that differs in
one block; `log`, `upd`, `kill`, `append_block` and with them the memory operations of the model are instances of it.
-/
namespace M1
open LY

/-- first identity `Clone` hands out (`State.init.mem.nextClone`) -/
def cloneBase : Nat := 1000000

def optId (o : Option Item) : List Nat :=
  match o with
  | some x => [x.id]
  | none => []

def elemIds (l : List (Option Item)) : List Nat := l.filterMap fun e => e.map (·.id)

/-- identities stored in a block: the header's, then those of the written slots -/
def Block.ids (k : Block) : List Nat := optId k.hdr ++ elemIds k.elems

theorem elemIds_cons (a : Option Item) (l : List (Option Item)) : elemIds (a :: l) = optId a ++ elemIds l := by
  cases a <;> simp [elemIds, optId]

theorem elemIds_append (a b : List (Option Item)) : elemIds (a ++ b) = elemIds a ++ elemIds b := by
  simp [elemIds, List.filterMap_append]

theorem elemIds_map_some (vs : List Item) : elemIds (vs.map some) = vs.map (·.id) := by
  induction vs with
  | nil => rfl
  | cons v r ih => rw [List.map_cons, elemIds_cons, ih]; rfl

theorem elemIds_replicate_none (n : Nat) : elemIds (List.replicate n none) = [] := by
  induction n with
  | zero => rfl
  | succ n ih => rw [List.replicate_succ, elemIds_cons, ih]; rfl

theorem elemIds_take_sublist (l : List (Option Item)) (n : Nat) : (elemIds (l.take n)).Sublist (elemIds l) :=
  (List.take_sublist n l).filterMap _

/-! ## what a payload destructor destroys -/

theorem dropIds_cons_drop (i : Nat) (es : List Event) : dropIds (Event.drop i :: es) = i :: dropIds es := rfl
theorem dropIds_cons_dropUninit (b i : Nat) (es : List Event) :
    dropIds (Event.dropUninit b i :: es) = dropIds es := rfl

theorem dropIds_zipIdx (b : Nat) (F : Option Item × Nat → Event)
    (hs : ∀ it i, F (some it, i) = Event.drop it.id) (hn : ∀ i, F (none, i) = Event.dropUninit b i)
    (l : List (Option Item)) (n : Nat) :
    dropIds ((l.zipIdx n).map F) = elemIds l := by
  induction l generalizing n with
  | nil => rfl
  | cons a r ih =>
    rw [List.zipIdx_cons, List.map_cons, elemIds_cons]
    cases a with
    | none => simp only [hn, dropIds_cons_dropUninit, ih, optId, List.nil_append]
    | some it => simp only [hs, dropIds_cons_drop, ih, optId, List.singleton_append]

theorem dropIds_payloadDrops (b : Nat) (k : Block) (t : Ty) (len : Nat) :
    dropIds (payloadDrops b k t len) =
      optId k.hdr ++ (if t.elemsInit then elemIds (k.elems.take len) else []) := by
  unfold payloadDrops
  rw [dropIds_append]
  congr 1
  · cases k.hdr <;> rfl
  · split
    · exact dropIds_zipIdx b _ (fun _ _ => rfl) (fun _ => rfl) _ 0
    · rfl

theorem dropIds_payloadDrops_sublist (b : Nat) (k : Block) (t : Ty) (len : Nat) :
    (dropIds (payloadDrops b k t len)).Sublist k.ids := by
  rw [dropIds_payloadDrops]
  apply List.Sublist.append (List.Sublist.refl _)
  split
  · exact elemIds_take_sublist _ _
  · exact List.nil_sublist _

theorem dropIds_payloadDrops_exact (b : Nat) (k : Block) {t : Ty} {len : Nat} (ht : t.elemsInit = true)
    (hlen : k.elems.length ≤ len) : dropIds (payloadDrops b k t len) = k.ids := by
  rw [dropIds_payloadDrops, ht, if_pos rfl, List.take_of_length_le hlen]; rfl

/-! ## the invariant -/

structure ValInvM (seen : List Nat) (m : Mem) : Prop where
  /-- a freed block has count word 0 -/
  dz : ∀ (b : Nat) (k : Block), m.blocks[b]? = some k → k.live = false → k.count = 0
  /-- no value is destroyed twice -/
  drops_nodup : (dropIds m.log).Nodup
  /-- a live (not abandoned) block stores each identity once -/
  ids_nodup : ∀ (b : Nat) (k : Block), m.blocks[b]? = some k → k.live = true → k.leaked = false → k.ids.Nodup
  /-- two live blocks (abandoned ones included) store different identities -/
  disjoint : ∀ (b b' : Nat) (k k' : Block), b ≠ b' → m.blocks[b]? = some k → m.blocks[b']? = some k' →
      k.live = true → k'.live = true → ∀ i, i ∈ k.ids → i ∉ k'.ids
  /-- what is stored in a live block (abandoned ones included) has not been destroyed -/
  placed_not_dropped : ∀ (b : Nat) (k : Block), m.blocks[b]? = some k → k.live = true →
      ∀ i, i ∈ k.ids → i ∉ dropIds m.log
  /-- every identity stored anywhere or destroyed was handed in or created by `Clone` -/
  known : ∀ i, (i ∈ dropIds m.log ∨ ∃ (b : Nat) (k : Block), m.blocks[b]? = some k ∧ i ∈ k.ids) →
      i ∈ seen ∨ (cloneBase ≤ i ∧ i < m.nextClone)
  /-- identities handed in are below the `Clone` range -/
  seen_lt : ∀ i, i ∈ seen → i < cloneBase
  clone_bound : cloneBase ≤ m.nextClone

/-- `i` occurs nowhere in `m` (not stored, not destroyed) and may: handed in, or in the range `Clone` has used -/
def FreshIn (seen : List Nat) (m : Mem) (i : Nat) : Prop :=
  i ∉ dropIds m.log ∧ (∀ (b : Nat) (k : Block), m.blocks[b]? = some k → i ∉ k.ids) ∧
    (i ∈ seen ∨ (cloneBase ≤ i ∧ i < m.nextClone))

namespace ValInvM
variable {seen : List Nat} {m : Mem}

theorem init : ValInvM [] State.init.mem where
  dz := fun _ _ h => nomatch h
  drops_nodup := List.nodup_nil
  ids_nodup := fun _ _ h => nomatch h
  disjoint := fun _ _ _ _ _ h => nomatch h
  placed_not_dropped := fun _ _ h => nomatch h
  known := fun _ h => h.elim (fun h => nomatch h) fun ⟨_, _, h, _⟩ => nomatch h
  seen_lt := fun _ h => nomatch h
  clone_bound := Nat.le_refl _

theorem weaken (hv : ValInvM seen m) {seen' : List Nat} (hsub : ∀ i, i ∈ seen → i ∈ seen')
    (hlt : ∀ i, i ∈ seen' → i < cloneBase) : ValInvM seen' m :=
  { hv with
    known := fun i h => (hv.known i h).imp (hsub i) id
    seen_lt := hlt }

theorem nowhere (hv : ValInvM seen m) {i : Nat} (hi : ¬(i ∈ seen ∨ cloneBase ≤ i ∧ i < m.nextClone)) :
    i ∉ dropIds m.log ∧ ∀ (b : Nat) (k : Block), m.blocks[b]? = some k → i ∉ k.ids :=
  ⟨fun h => hi (hv.known i (.inl h)), fun b k hk h => hi (hv.known i (.inr ⟨b, k, hk, h⟩))⟩

theorem fresh_of_new (hv : ValInvM seen m) {seen' : List Nat} {i : Nat} (hi : i ∉ seen) (hlt : i < cloneBase)
    (hin : i ∈ seen') : FreshIn seen' m i :=
  have := hv.nowhere (i := i) fun h => h.elim hi fun h => Nat.lt_irrefl _ (Nat.lt_of_lt_of_le hlt h.1)
  ⟨this.1, this.2, .inl hin⟩

/-- The blocks differ at index `b` only: a block rewritten, or a new one appended (`b = m.blocks.length`).  What `D`
destroys and what the block at `b` stores afterwards is fresh or was stored by the old block at `b`.  That one must have
been live, for a `.drop` and for a block that is live afterwards: what a dead block stores may have been destroyed. -/
theorem change (hv : ValInvM seen m) {m' : Mem} (b : Nat) (D : List Nat)
    (hlog : dropIds m'.log = dropIds m.log ++ D) (hnc : m.nextClone ≤ m'.nextClone)
    (hne : ∀ j, j ≠ b → m'.blocks[j]? = m.blocks[j]?) (hD : D.Nodup)
    (hsrc : ∀ i, i ∈ D → FreshIn seen m i ∨ ∃ k, m.blocks[b]? = some k ∧ k.live = true ∧ i ∈ k.ids)
    (hb : ∀ k', m'.blocks[b]? = some k' →
      (k'.live = false → k'.count = 0) ∧ (k'.live = true → k'.leaked = false → k'.ids.Nodup) ∧
      (k'.live = true → ∀ i, i ∈ k'.ids → i ∉ D) ∧
      ∀ i, i ∈ k'.ids → FreshIn seen m i ∨ ∃ k, m.blocks[b]? = some k ∧ (k'.live = true → k.live = true) ∧ i ∈ k.ids) :
    ValInvM seen m' := by
  have hat : ∀ {j : Nat} {k' : Block}, m'.blocks[j]? = some k' → j = b ∨ j ≠ b ∧ m.blocks[j]? = some k' :=
    fun {j} _ h => (Decidable.em (j = b)).imp_right fun hj => ⟨hj, hne j hj ▸ h⟩
  have hfresh : ∀ {i j : Nat} {k' : Block}, FreshIn seen m i → m'.blocks[j]? = some k' → i ∈ k'.ids → j = b :=
    fun hf hk' hi => (hat hk').elim id fun hk => absurd hi (hf.2.1 _ _ hk.2)
  have hids : ∀ {j : Nat} {k' : Block}, m'.blocks[j]? = some k' → k'.live = true → ∀ i, i ∈ k'.ids →
      FreshIn seen m i ∨ ∃ k, m.blocks[j]? = some k ∧ k.live = true ∧ i ∈ k.ids := by
    intro j k' hk' hl i hi
    rcases hat hk' with rfl | ⟨_, hk⟩
    · exact ((hb k' hk').2.2.2 i hi).imp id fun ⟨k, hk, hlk, hik⟩ => ⟨k, hk, hlk hl, hik⟩
    · exact .inr ⟨k', hk, hl, hi⟩
  refine ⟨fun j k' hk' hl => ?_, ?_, fun j k' hk' hl hlk => ?_, fun j j' k1 k2 hjj hk1 hk2 hl1 hl2 i hi1 hi2 => ?_,
    fun j k' hk' hl i hi => ?_, fun i h => ?_, hv.seen_lt, Nat.le_trans hv.clone_bound hnc⟩
  · rcases hat hk' with rfl | ⟨_, hk⟩
    · exact (hb k' hk').1 hl
    · exact hv.dz j k' hk hl
  · rw [hlog, List.nodup_append]
    refine ⟨hv.drops_nodup, hD, fun i hi c hc e => ?_⟩
    subst e
    rcases hsrc i hc with hf | ⟨k, hk, hl, hik⟩
    · exact hf.1 hi
    · exact hv.placed_not_dropped b k hk hl i hik hi
  · rcases hat hk' with rfl | ⟨_, hk⟩
    · exact (hb k' hk').2.1 hl hlk
    · exact hv.ids_nodup j k' hk hl hlk
  · have hboth := fun hf => hjj ((hfresh hf hk1 hi1).trans (hfresh hf hk2 hi2).symm)
    rcases hids hk1 hl1 i hi1 with hf | ⟨k1o, hk1o, hl1o, h1⟩
    · exact hboth hf
    · rcases hids hk2 hl2 i hi2 with hf | ⟨k2o, hk2o, hl2o, h2⟩
      · exact hboth hf
      · exact hv.disjoint j j' k1o k2o hjj hk1o hk2o hl1o hl2o i h1 h2
  · rw [hlog, List.mem_append]
    rintro (h | h)
    · rcases hids hk' hl i hi with hf | ⟨k, hk, hlk, hik⟩
      · exact hf.1 h
      · exact hv.placed_not_dropped j k hk hlk i hik h
    · rcases hat hk' with rfl | ⟨hj, hk⟩
      · exact (hb k' hk').2.2.1 hl i hi h
      · rcases hsrc i h with hf | ⟨k, hkb, hlk, hik⟩
        · exact hj (hfresh hf hk' hi)
        · exact hv.disjoint b j k k' (Ne.symm hj) hkb hk hlk hl i hik hi
  · refine Or.imp_right (fun (h : _ ∧ _) => ⟨h.1, Nat.lt_of_lt_of_le h.2 hnc⟩) ?_
    rw [hlog, List.mem_append] at h
    rcases h with (h | h) | ⟨j, k', hk', hi⟩
    · exact hv.known i (.inl h)
    · rcases hsrc i h with hf | ⟨k, hk, _, hik⟩
      · exact hf.2.2
      · exact hv.known i (.inr ⟨b, k, hk, hik⟩)
    · rcases hat hk' with rfl | ⟨_, hk⟩
      · rcases (hb k' hk').2.2.2 i hi with hf | ⟨k, hk, _, hik⟩
        · exact hf.2.2
        · exact hv.known i (.inr ⟨j, k, hk, hik⟩)
      · exact hv.known i (.inr ⟨j, k', hk, hi⟩)

theorem log (hv : ValInvM seen m) {m' : Mem} (D : List Nat) (hb : m'.blocks = m.blocks)
    (hlog : dropIds m'.log = dropIds m.log ++ D) (hnc : m.nextClone ≤ m'.nextClone) (hD : D.Nodup)
    (hfr : ∀ i, i ∈ D → FreshIn seen m i) : ValInvM seen m' := by
  refine hv.change m.blocks.length D hlog hnc (fun j _ => by rw [hb]) hD (fun i hi => .inl (hfr i hi)) fun k' hk' => ?_
  rw [hb, List.getElem?_eq_none (Nat.le_refl _)] at hk'
  cases hk'

theorem emit (hv : ValInvM seen m) (E : List Event) (hn : (dropIds E).Nodup)
    (hfr : ∀ i, i ∈ dropIds E → FreshIn seen m i) : ValInvM seen (m.emit E) :=
  hv.log _ rfl (dropIds_append ..) (Nat.le_refl _) hn hfr

theorem upd (hv : ValInvM seen m) (b : Nat) (f : Block → Block)
    (hf : ∀ k, m.blocks[b]? = some k →
      ((f k).live = true → k.live = true) ∧ ((f k).leaked = false → k.leaked = false) ∧
      ((f k).live = false → (k.live = false → k.count = 0) → (f k).count = 0) ∧
      (∀ i, i ∈ (f k).ids → i ∈ k.ids ∨ FreshIn seen m i) ∧ (k.ids.Nodup → (f k).ids.Nodup)) :
    ValInvM seen (m.upd b f) := by
  refine hv.change b [] (List.append_nil _).symm (Nat.le_refl _) (fun j hj => List.getElem?_modify_ne f _ (Ne.symm hj))
    List.nodup_nil (fun _ h => absurd h List.not_mem_nil) fun k' hk' => ?_
  obtain ⟨k, hk, rfl⟩ := Option.map_eq_some_iff.1 ((List.getElem?_modify_eq f b m.blocks).symm.trans hk')
  obtain ⟨h1, h2, h3, h4, h5⟩ := hf k hk
  exact ⟨fun hl => h3 hl (hv.dz b k hk), fun hl hlk => h5 (hv.ids_nodup b k hk (h1 hl) (h2 hlk)),
    fun _ _ _ => List.not_mem_nil, fun i hi => (h4 i hi).elim (fun h => .inr ⟨k, hk, h1, h⟩) .inl⟩

theorem kill (hv : ValInvM seen m) (b : Nat) (q : List Event) (sz al : Nat) (hn : (dropIds q).Nodup)
    (hq : ∀ i, i ∈ dropIds q → ∃ k, m.blocks[b]? = some k ∧ k.live = true ∧ i ∈ k.ids) :
    ValInvM seen ((m.upd b fun k => { k with count := 0, live := false }).emit (q ++ [.dealloc b sz al])) := by
  refine hv.change b (dropIds q) (by simp only [Mem.emit, Mem.upd, dropIds_append, dropIds_dealloc, List.append_nil])
    (Nat.le_refl _) (fun j hj => List.getElem?_modify_ne _ _ (Ne.symm hj)) hn (fun i hi => .inr (hq i hi)) fun k' hk' => ?_
  obtain ⟨k, hk, rfl⟩ := Option.map_eq_some_iff.1 ((List.getElem?_modify_eq _ b m.blocks).symm.trans hk')
  exact ⟨fun _ => rfl, (fun h => nomatch h), (fun h => nomatch h), fun i hi => .inr ⟨k, hk, (fun h => nomatch h), hi⟩⟩

theorem append_block (hv : ValInvM seen m) (k0 : Block) (b sz al : Nat) (E : List Event)
    (hcount : k0.live = false → k0.count = 0) (hnod : k0.live = true → k0.leaked = false → k0.ids.Nodup)
    (hfresh : ∀ i, i ∈ k0.ids → FreshIn seen m i) (hn : (dropIds E).Nodup)
    (hfr : ∀ i, i ∈ dropIds E → FreshIn seen m i ∧ (k0.live = true → i ∉ k0.ids)) :
    ValInvM seen ⟨m.blocks ++ [k0], m.log ++ .alloc b sz al :: E, m.nextClone⟩ := by
  refine hv.change m.blocks.length (dropIds E) (dropIds_append ..) (Nat.le_refl _) (fun _ => getElem?_concat_ne) hn
    (fun i hi => .inl (hfr i hi).1) fun k' hk' => ?_
  cases List.getElem?_concat_length.symm.trans hk'
  exact ⟨hcount, hnod, fun hl i hi hd => (hfr i hd).2 hl hi, fun i hi => .inl (hfresh i hi)⟩

/-! ## the memory operations of the model -/

theorem upd_same (hv : ValInvM seen m) (b : Nat) (f : Block → Block)
    (hf : ∀ k, m.blocks[b]? = some k → (f k).ids = k.ids ∧ (f k).live = k.live ∧ (f k).leaked = k.leaked ∧
      ((f k).live = false → (k.live = false → k.count = 0) → (f k).count = 0)) :
    ValInvM seen (m.upd b f) := by
  refine hv.upd b f fun k hk => ?_
  obtain ⟨h1, h2, h3, h4⟩ := hf k hk
  exact ⟨fun h => h2 ▸ h, fun h => h3 ▸ h, h4, fun i hi => Or.inl (h1 ▸ hi), fun h => h1 ▸ h⟩

theorem incr (hv : ValInvM seen m) {b : Nat} {k : Block} (hk : m.blocks[b]? = some k) (hl : k.live = true) :
    ValInvM seen (incr m b) := by
  apply hv.upd_same
  intro k' hk'
  rw [hk] at hk'; cases hk'
  exact ⟨rfl, rfl, rfl, fun h => nomatch hl.symm.trans h⟩

theorem leak (hv : ValInvM seen m) (b : Nat) : ValInvM seen (m.leak b) :=
  hv.upd b _ fun _ _ => ⟨id, (fun h => nomatch h), fun h hz => hz h, fun _ hi => Or.inl hi, id⟩

theorem writeVal_ids (k : Block) (v : Nat) :
    (match k.hdr with
      | some it => { k with hdr := some { it with val := v } }
      | none =>
        match k.elems with
        | some it :: r => { k with elems := some { it with val := v } :: r }
        | _ => k : Block).ids = k.ids := by
  cases hh : k.hdr with
  | some it => simp [Block.ids, hh, optId]
  | none =>
    simp only
    split
    · rename_i it r he
      simp [Block.ids, hh, he, elemIds_cons, optId]
    · rfl

theorem writeVal (hv : ValInvM seen m) (b v : Nat) : ValInvM seen (writeVal m b v) := by
  apply hv.upd_same
  intro k _
  refine ⟨writeVal_ids k v, ?_⟩
  split
  · exact ⟨rfl, rfl, fun h hz => hz h⟩
  · split <;> exact ⟨rfl, rfl, fun h hz => hz h⟩

/-- `T::clone`: the clone's identity is the old `nextClone`, which occurs nowhere -/
theorem cloneValue_fresh (hv : ValInvM seen m) (b : Nat) :
    ValInvM seen (cloneValue m b).1 ∧ ∀ i, i ∈ optId (cloneValue m b).2 → FreshIn seen (cloneValue m b).1 i := by
  unfold M1.cloneValue
  split
  · rename_i it _
    refine ⟨hv.log [] rfl (dropIds_append ..) (Nat.le_succ _) List.nodup_nil fun _ h => absurd h List.not_mem_nil,
      fun i hi => ?_⟩
    cases List.mem_singleton.1 hi
    have := hv.nowhere (i := m.nextClone) fun h =>
      h.elim (fun h => Nat.lt_irrefl _ (Nat.lt_of_lt_of_le (hv.seen_lt _ h) hv.clone_bound)) fun h => Nat.lt_irrefl _ h.2
    refine ⟨fun h => this.1 ?_, this.2, .inr ⟨hv.clone_bound, Nat.lt_succ_self _⟩⟩
    exact ((dropIds_append ..).trans (List.append_nil _) : dropIds (m.log ++ [.clone it.id m.nextClone]) = _) ▸ h
  · exact ⟨hv, fun _ h => absurd h List.not_mem_nil⟩

theorem cloneValue (hv : ValInvM seen m) (b : Nat) : ValInvM seen (cloneValue m b).1 := (hv.cloneValue_fresh b).1

theorem decr (hv : ValInvM seen m) (b : Nat) (t : Ty) (len : Nat)
    (hnl : ∀ k, m.blocks[b]? = some k → k.leaked = false) : ValInvM seen (decr m b t len) := by
  unfold M1.decr
  split
  · exact hv
  · rename_i k hk
    split
    · rename_i h1
      have hl : k.live = true := by
        cases hlv : k.live with
        | true => rfl
        | false => have := hv.dz b k hk hlv; omega
      -- the destructor destroys only what the block stored, each at most once
      have hD := dropIds_payloadDrops_sublist b k t len
      exact hv.kill b _ _ _ (hD.nodup (hv.ids_nodup b k hk hl (hnl k hk))) fun i hi => ⟨k, hk, hl, hD.subset hi⟩
    · apply hv.upd_same
      intro k' _
      exact ⟨rfl, rfl, rfl, fun hl hz => by simp [hz hl]⟩

/-- `UniqueArc::into_inner`: the block dies, its value is moved out to the caller (no `.drop`) -/
theorem into_inner (hv : ValInvM seen m) (u : HV) : ValInvM seen (UniqueArc.into_inner m u).1 := by
  unfold UniqueArc.into_inner
  split
  · exact hv
  · exact hv.kill u.blk [] _ _ List.nodup_nil nofun

/-- `Arc::new(T::clone(..))` in `make_mut` -/
theorem cloneNew (hv : ValInvM seen m) (b : Nat) (t : Ty) :
    ValInvM seen (Arc.new (M1.cloneValue m b).1 t (M1.cloneValue m b).2).1 := by
  obtain ⟨h1, hfr⟩ := hv.cloneValue_fresh b
  have hids : (⟨1, true, allocLayoutBoxNew bits t.elemLay, none, none, [(M1.cloneValue m b).2], false⟩ : Block).ids =
      optId (M1.cloneValue m b).2 := (elemIds_cons ..).trans (List.append_nil _)
  exact h1.append_block _ _ _ _ [] (fun h => nomatch h)
    (fun _ _ => hids ▸ by cases (M1.cloneValue m b).2 <;> simp [optId]) (fun i hi => hfr i (hids ▸ hi))
    List.nodup_nil fun _ h => absurd h List.not_mem_nil

theorem ids_set (k : Block) (i : Nat) (v : Item) :
    ({ k with elems := k.elems.set i (some v) } : Block).ids = k.ids ∨
      ∃ S, S.Sublist k.ids ∧ ({ k with elems := k.elems.set i (some v) } : Block).ids.Perm (v.id :: S) := by
  simp only [Block.ids, List.set_eq_take_append_cons_drop]
  split
  · refine .inr ⟨optId k.hdr ++ elemIds (k.elems.take i) ++ elemIds (k.elems.drop (i + 1)), ?_, ?_⟩
    · have : elemIds k.elems = elemIds (k.elems.take i) ++ elemIds (k.elems.drop i) := by
        rw [← elemIds_append, List.take_append_drop]
      rw [this, ← List.append_assoc]
      exact .append (.refl _) ((List.drop_sublist_drop_left k.elems (Nat.le_succ i)).filterMap _)
    · rw [elemIds_append, elemIds_cons, ← List.append_assoc]
      exact List.perm_middle
  · exact .inl rfl

theorem set_elem (hv : ValInvM seen m) (b i : Nat) (v : Item) (hfr : FreshIn seen m v.id) :
    ValInvM seen (m.upd b fun k => { k with elems := k.elems.set i (some v) }) := by
  refine hv.upd b _ fun k hk => ⟨id, id, fun h hz => hz h, ?_⟩
  rcases ids_set k i v with h | ⟨S, hS, hp⟩
  · rw [h]; exact ⟨fun j hj => .inl hj, id⟩
  · refine ⟨fun j hj => ?_, fun hn =>
      hp.nodup_iff.2 (List.nodup_cons.2 ⟨fun h => hfr.2.1 b k hk (hS.subset h), hS.nodup hn⟩)⟩
    rcases List.mem_cons.1 (hp.subset hj) with rfl | h
    · exact .inr hfr
    · exact .inl (hS.subset h)

end ValInvM

end M1
