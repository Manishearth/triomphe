import TriompheModel.Model.AutoTraits
/-!
# The class abstraction behind C13 (model M7; independent of the generated tables)

The bound language that the translator extracts from the `unsafe impl Send/Sync` headers (`Send`, `Sync`, `?Sized`, `Sized`,
`T: 'a` for a lifetime argument of the self type) cannot distinguish two types of the same `(send?, sync?, sized?)` class
(`class_abstraction_complete`): deciding an impl's applicability on the 8 classes decides it for **all** Rust types `T`.
More capable types satisfy more bounds (`boundHolds_mono`): a generic probe `fn f<T: Send>() { assert_send::<K<T>>() }` is
read at the least class satisfying the declared bound.
-/
namespace AutoTraits
open FactsTraits

/-- An arbitrary Rust type, as far as a `where`-bound can observe it: which auto traits it has, whether
it is `Sized`, which lifetimes it outlives, and which other traits it implements.  This is what the
class abstraction forgets: `outlives` and `implements` are arbitrary functions. -/
structure AbsType where
  send : Bool
  sync : Bool
  sized : Bool
  outlives : String → Bool      -- `T: 'l`
  static : Bool                 -- `T: 'static`
  implements : String → Bool    -- any other trait bound, by its normalised text

def AbsType.cls (t : AbsType) : Class := ⟨t.send, t.sync, t.sized⟩

/-- satisfaction of one bound by an arbitrary type (the "real" semantics of the bound language) -/
def AbsType.satisfies (t : AbsType) : Bound → Bool
  | .send => t.send
  | .sync => t.sync
  | .qsized => true
  | .sized => t.sized
  | .outlives l => t.outlives l
  | .static => t.static
  | .other s => t.implements s

/-- a parameter's declared bound set holds for `t` (implicit `Sized` unless `?Sized`) -/
def AbsType.satisfiesAll (t : AbsType) (bs : List Bound) : Bool :=
  (bs.contains .qsized || t.sized) && bs.all t.satisfies

/-- `t` may be an argument of the self type `K<'l.., t>`: well-formedness of that type implies
`t: 'l` for each of its lifetime arguments (as `ArcBorrow<'a, T: 'a>` declares) -/
def AbsType.wfFor (t : AbsType) (lts : List String) : Prop := ∀ l, lts.contains l = true → t.outlives l = true

theorem satisfies_eq_boundHolds (lts : List String) (t : AbsType) (hwf : t.wfFor lts) (b : Bound)
    (hb : Bound.classOnly lts b = true) : t.satisfies b = boundHolds lts t.cls b := by
  cases b with
  | send => rfl
  | sync => rfl
  | qsized => rfl
  | sized => rfl
  | outlives l =>
    simp only [Bound.classOnly] at hb
    simp only [AbsType.satisfies, boundHolds]
    rw [hwf l hb, hb]
  | static => simp [Bound.classOnly] at hb
  | other s => simp [Bound.classOnly] at hb

theorem class_abstraction_complete (lts : List String) (bs : List Bound)
    (hfrag : bs.all (Bound.classOnly lts) = true) (t : AbsType) (hwf : t.wfFor lts) :
    t.satisfiesAll bs = boundsHold lts bs t.cls := by
  -- the two `all`s agree bound by bound
  rw [AbsType.satisfiesAll, boundsHold, List.all_eq, List.all_eq]
  exact congrArg _ (decide_eq_decide.mpr (forall₂_congr fun b hb => by
    rw [satisfies_eq_boundHolds lts t hwf b (List.all_eq_true.mp hfrag b hb)]))

theorem same_class_same_verdict (lts : List String) (bs : List Bound)
    (hfrag : bs.all (Bound.classOnly lts) = true) (t₁ t₂ : AbsType)
    (h₁ : t₁.wfFor lts) (h₂ : t₂.wfFor lts) (hc : t₁.cls = t₂.cls) :
    t₁.satisfiesAll bs = t₂.satisfiesAll bs := by
  rw [class_abstraction_complete lts bs hfrag t₁ h₁, class_abstraction_complete lts bs hfrag t₂ h₂, hc]

def Class.le (c d : Class) : Prop :=
  (c.send = true → d.send = true) ∧ (c.sync = true → d.sync = true) ∧ (c.sized = true → d.sized = true)

theorem boundHolds_mono (lts : List String) (c d : Class) (h : Class.le c d) (b : Bound)
    (hb : boundHolds lts c b = true) : boundHolds lts d b = true := by
  cases b with
  | send => exact h.1 hb
  | sync => exact h.2.1 hb
  | qsized => rfl
  | sized => exact h.2.2 hb
  | outlives l => exact hb
  | static => exact hb
  | other s => exact hb

theorem all_classLists {n : Nat} {p : List Class → Bool} (h : (classLists n).all p = true) (cs : List Class)
    (hlen : cs.length = n) : p cs = true :=
  List.all_eq_true.mp h cs (hlen ▸ mem_classLists cs)

theorem shared_of_ok (tb : Tables) (K : String) (h : sharedKindOk tb K = true)
    (cs : List Class) (hlen : cs.length = arity tb K) (hwf : wfArgs tb K cs = true) :
    isSend tb K cs = cs.all (fun c => c.send && c.sync) ∧
    isSync tb K cs = cs.all (fun c => c.send && c.sync) := by
  have := all_classLists h cs hlen
  rw [hwf] at this
  simpa using this

theorem unique_of_ok (tb : Tables) (K : String) (h : uniqueKindOk tb K = true)
    (cs : List Class) (hlen : cs.length = arity tb K) (hwf : wfArgs tb K cs = true) :
    isSend tb K cs = cs.all (·.send) ∧ isSync tb K cs = cs.all (·.sync) := by
  have := all_classLists h cs hlen
  rw [hwf] at this
  simpa using this

theorem mem_obligated {sigs : List Sig} {s : Sig} (hs : s ∈ sigs) (hp : s.isPub = true) (hu : s.isUnsafe = false) :
    s ∈ sigs.filter Sig.obligated :=
  List.mem_filter.mpr ⟨hs, by simp [Sig.obligated, hp, hu]⟩

theorem bounded_of_ok (sigs : List Sig) (h : sigsBounded sigs = true) (s : Sig) (hs : s ∈ sigs)
    (hp : s.isPub = true) (hu : s.isUnsafe = false) : regionBounded s = true :=
  List.all_eq_true.mp h s (mem_obligated hs hp hu)

theorem hr_of_ok (sigs : List Sig) (h : callbacksHigherRanked sigs = true) (s : Sig) (hs : s ∈ sigs)
    (hp : s.isPub = true) (hu : s.isUnsafe = false) (cb : Callback) (hcb : cb ∈ s.callbacks) :
    higherRanked cb = true :=
  List.all_eq_true.mp (List.all_eq_true.mp h s (mem_obligated hs hp hu)) cb hcb

end AutoTraits
