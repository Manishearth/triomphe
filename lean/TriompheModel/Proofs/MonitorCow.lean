import TriompheModel.Proofs.MonitorBase
import TriompheModel.Proofs.HistInit
/-!
# K7 (C08, copy-on-write) on the model's observations

What `make_mut` does when the handle is shared (`make_mut_shared`) and the check itself (`K7_mm`); what `make_mut` leaves
alone is `mmState_frame_cont` of `Proofs/HistCow.lean`.  That exactly one `clone` event is logged and that the write target
shows the written value needs `InitInv` (`Proofs/HistInit.lean`): the one slot of a sized payload seen through an
initialised view is written, so there is a value to clone.
-/
namespace M1
namespace Mon

def wvC (v : Nat) (c : Option Item × Option Nat × List (Option Item)) : Option Item × Option Nat × List (Option Item) :=
  match c.1 with
  | some it => (some { it with val := v }, c.2.1, c.2.2)
  | none =>
    match c.2.2 with
    | some it :: r => (none, c.2.1, some { it with val := v } :: r)
    | _ => c

theorem cont_writeVal_self (m : Mem) (b v : Nat) : cont (writeVal m b v) b = (cont m b).map (wvC v) := by
  simp only [cont, writeVal, upd_get, if_true]
  cases m.blocks[b]? with
  | none => rfl
  | some k =>
    obtain ⟨cnt, lv, lay, hdr, rl, elems, lk⟩ := k
    cases hdr with
    | some it => rfl
    | none =>
      cases elems with
      | nil => rfl
      | cons e r => cases e <;> rfl

theorem targetOk_wvC {m : Mem} {q : HV} {v : Nat} {hdr : Option Item} {rl : Option Nat} {it : Item}
    {r : List (Option Item)} (hc : cont m q.blk = some (wvC v (hdr, rl, some it :: r)))
    (hei : q.ty.elemsInit = true) (hvl : viewLen m q = 1) : targetOk (slotObs m q) v = true := by
  simp only [targetOk, slotObs, digObs_eq, hc, hei, hvl]
  cases hdr <;> simp [digOf, wvC, Dig.target]

theorem cloneValue_snd {m : Mem} {b : Nat} {k : Block} {it : Item} (hk : m.blocks[b]? = some k)
    (hel : k.elems = [some it]) : (cloneValue m b).2 = some ⟨m.nextClone, it.val⟩ := by
  simp [cloneValue, hk, hel]

theorem is_unique_congr {m : Mem} {a h : HV} (ha : a.blk = h.blk) : Arc.is_unique m a = Arc.is_unique m h := by
  simp only [Arc.is_unique, Arc.count, ha]

theorem writeVal_log (m : Mem) (b v : Nat) : (writeVal m b v).log = m.log := rfl

theorem cont_arc_new_fresh (m : Mem) (t : Ty) (v : Option Item) :
    cont (Arc.new m t v).1 m.blocks.length = some (none, none, [v]) := by
  show ((m.blocks ++ [_])[m.blocks.length]?).map Block.content = _
  simp [Block.content]

theorem make_mut_shared {m m' : Mem} {a h' : HV} {cp : Bool} (hlt : a.blk < m.blocks.length)
    (hu : Arc.is_unique m a = false) (hmm : Arc.make_mut m a cp = (m', some h')) (v : Nat) :
    cp = false ∧ h'.blk = m.blocks.length ∧ h'.ty = a.ty ∧ h'.kind = .arc ∧
    ∃ ce sz al, (writeVal m' h'.blk v).log = m.log ++ (ce ++ [Event.alloc m.blocks.length sz al]) ∧
      ce.countP isCloneEv = (if (cloneValue m a.blk).2.isSome then 1 else 0) ∧
      cont (writeVal m' h'.blk v) h'.blk = some (wvC v (none, none, [(cloneValue m a.blk).2])) := by
  cases make_mut_graph hmm with
  | unique hu' => cases hu'.symm.trans hu
  | redirected =>
    obtain ⟨ce, sz, al, hlog, hcc, _⟩ := make_mut_shared_log hlt hu
    refine ⟨rfl, length_cloneValue _ _, rfl, rfl, ce, sz, al, hlog, hcc, ?_⟩
    rw [cont_writeVal_self, Arc.drop_eq, cont_decr]
    exact congrArg (Option.map (wvC v))
      (cont_arc_new_fresh (cloneValue m a.blk).1 a.ty (cloneValue m a.blk).2)

theorem k7_skip {pre : List (Nat × SlotObs)} {op : Op} {o : Obs} (h : o.badOp = true ∨ o.panicked = true) :
    checkK7 pre op o = [] := by
  unfold checkK7
  split
  · rfl
  · rcases h with h | h <;> simp [h]

theorem k7_none {pre : List (Nat × SlotObs)} {op : Op} {o : Obs} (h : cowSrc op = none) : checkK7 pre op o = [] := by
  unfold checkK7; rw [h]

theorem k7_of_unique {s s' : State} {op : Op} {src v : Nat} {h h' : HV} (hop : cowSrc op = some (src, v))
    (e : step s op = (s', ok)) (hlog : s'.mem.log = s.mem.log) (hs : lookup s src = some h)
    (hs' : lookup s' src = some h') (hn : owners s h.blk = 1) (hb : h'.blk = h.blk)
    (ht : targetOk (slotObs s'.mem h') v = true) : checkK7 (observeSlots s) op (observe s op) = [] := by
  rw [observe_quiet e hlog]
  simp [checkK7, hop, lookupO_pre hs, lookupO_pre hs', ownersO_observe, hn, hb, ht]

theorem k7_of_shared {s s' : State} {op : Op} {src v : Nat} {h h' : HV} {es : List Event}
    (hop : cowSrc op = some (src, v)) (e : step s op = (s', ok)) (hlog : s'.mem.log = s.mem.log ++ es)
    (hs : lookup s src = some h) (hs' : lookup s' src = some h') (hn : owners s h.blk ≠ 1) (hb : h'.blk ≠ h.blk)
    (hc : es.countP isCloneEv = 1) (h1 : owners s' h'.blk = 1) (h2 : owners s' h.blk + 1 = owners s h.blk)
    (hoth : (observeSlots s).filterMap (k7Other (observeSlots s') h.blk src) = [])
    (ht : targetOk (slotObs s'.mem h') v = true) : checkK7 (observeSlots s) op (observe s op) = [] := by
  rw [observe_of e hlog]
  simp [checkK7, hop, lookupO_pre hs, lookupO_pre hs', ownersO_observe, hn, hb, hc, h1, h2, hoth, ht]

/-- one statement for the constructors `makeMut`, `makeUnique`, `makeMutOffset` of `Step`: `make_mut` goes through the
`Arc` view `a` of slot `src`, and the handle written back is `g m h'` (`g` is the identity or `Arc.into_raw_offset`) -/
theorem K7_mm {s : State} (hi : Inv s) {src v : Nat} {h a h' : HV} {g : Mem → HV → HV} {cp : Bool} {op : Op}
    {m : Mem} (hs : lookup s src = some h) (ha : a.blk = h.blk) (haty : a.ty = .sized) (hak : a.kind = .arc)
    (hfirst : ∃ (k : Block) (it : Item), s.mem.blocks[h.blk]? = some k ∧ k.elems = [some it])
    (hg : ∀ m x, (g m x).blk = x.blk)
    (hgv : ∀ (m m' : Mem) (x : HV), x.ty = .sized → x.kind = .arc →
      viewLen m' (g m x) = 1 ∧ (g m x).ty.elemsInit = true)
    (hop : cowSrc op = some (src, v)) (hmm : Arc.make_mut s.mem a cp = (m, some h'))
    (e : step s op = (⟨writeVal m h'.blk v, (s.set m src (g m h')).slots⟩, ok)) :
    checkK7 (observeSlots s) op (observe s op) = [] := by
  have hst : mmState s src v a g cp = ⟨writeVal m h'.blk v, (s.set m src (g m h')).slots⟩ := by
    unfold mmState; rw [hmm]
  have hs' : lookup (State.mk (writeVal m h'.blk v) (s.set m src (g m h')).slots) src = some (g m h') :=
    lookup_set_self hs m _
  obtain ⟨kb, it0, hkb, hel0⟩ := hfirst
  cases hu : Arc.is_unique s.mem h with
  | true =>
    rw [make_mut_eq, is_unique_congr ha, hu] at hmm
    cases hmm
    obtain ⟨hv1, hv2⟩ := hgv s.mem (writeVal s.mem a.blk v) a haty hak
    have hc : cont (writeVal s.mem a.blk v) (g s.mem a).blk = some (wvC v (kb.hdr, kb.recLen, [some it0])) := by
      rw [hg, cont_writeVal_self, ha, cont_of_block hkb, hel0]; rfl
    exact k7_of_unique hop e rfl hs hs' (unique_owners hi hs hu) ((hg _ _).trans ha) (targetOk_wvC hc hv2 hv1)
  | false =>
    have hsh := shared_owners hi hs hu
    obtain ⟨rfl, hqb, hqt, hqk, ce, sz, al, hlog, hcc, hcont⟩ :=
      make_mut_shared (ha ▸ hi.inb _ (lookup_mem hs)) ((is_unique_congr ha).trans hu) hmm v
    obtain ⟨hqv, hqe⟩ := hgv m (writeVal m h'.blk v) h' (hqt.trans haty) hqk
    obtain ⟨ho1, ho2, _⟩ := mmState_shared_owners (v := v) hi hs ha hg hsh
    rw [hst] at ho1 ho2
    have hcv : (cloneValue s.mem a.blk).2 = some ⟨s.mem.nextClone, it0.val⟩ := by
      rw [ha]; exact cloneValue_snd hkb hel0
    refine k7_of_shared hop e hlog hs hs' hsh ?_ ?_ ?_ ?_ ?_ (targetOk_wvC (by rw [hg, hcont, hcv]) hqe hqv)
    · rw [hg, hqb]; exact Nat.ne_of_gt (hi.inb _ (lookup_mem hs))
    · -- exactly one clone: the value is there (`InitInv`)
      rw [List.countP_append, hcc, hcv]; rfl
    · rw [hg, hqb]; exact ho2
    · rw [ho1]; exact Nat.sub_add_cancel (ownersL_pos (lookup_mem hs))
    · rw [List.filterMap_eq_nil_iff]
      intro e' he
      obtain ⟨hv, hm, he2⟩ := mem_observe he
      unfold k7Other
      by_cases hes : e'.1 = src
      · simp [hes]
      · obtain ⟨hf1, hf2⟩ := mmState_frame_cont (v := v) (g := g) (cp := false) hi hs ha hes (mem_lookupL hi.keys hm)
        rw [hst] at hf1 hf2
        rw [lookupO_observe, hf1, he2]
        simp [slotObs, digObs_congr hf2]

theorem viewLen_sized_arc (m : Mem) (x : HV) (hty : x.ty = .sized) (hk : x.kind = .arc) : viewLen m x = 1 := by
  simp [viewLen, hty, hk, Ty.isSlicey]

theorem K7_sound {s : State} (hi : Inv s) (hl : LenInv s) (hinit : InitInv s) (op : Op) :
    checkK7 (observeSlots s) op (observe s op) = [] := by
  obtain ⟨r, e, hr⟩ := step_cases s op
  cases hr with
  | bad => exact k7_skip (.inl (by rw [observe_bad e]))
  | makeMutPanic | makeUniquePanic =>
    exact k7_skip (.inr (by rw [observe_quiet e rfl]; exact isPanic_panicked _ _))
  | makeMut hs hc hmm | makeUnique hs hc hmm =>
    exact K7_mm (g := fun _ x => x) hi hs rfl hc.2 hc.1 (hinit.sized_written hl hs hc.2) (fun _ _ => rfl)
      (fun m m' x hty hk => ⟨viewLen_sized_arc m' x hty hk, by rw [hty]; rfl⟩) rfl hmm e
  | @makeMutOffset src v cp h a' m hs hk hmm =>
    obtain ⟨k, _, ho⟩ := hl.ok src h (lookup_mem hs)
    have hty : h.ty = .sized := ho.off hk
    refine K7_mm (a := Arc.from_raw_offset s.mem h) (g := Arc.into_raw_offset) hi hs rfl hty rfl
      (hinit.sized_written hl hs hty) (fun _ _ => rfl) ?_ rfl hmm e
    intro m m' x hx _
    constructor
    · simp [viewLen, Arc.into_raw_offset, Arc.into_raw, hx, Ty.isSlicey]
    · show x.ty.elemsInit = true
      rw [hx]; rfl
  | _ => exact k7_none rfl

theorem checkK7_withEvs (pre : List (Nat × SlotObs)) (op : Op) (o : Obs) (evs' : List Event)
    (h : evs'.Perm o.evs) : checkK7 pre op (o.withEvs evs') = checkK7 pre op o := by
  unfold checkK7 Obs.withEvs
  simp only [h.countP_eq]

end Mon
end M1
