import TriompheModel.Proofs.MonitorBase
import TriompheModel.Proofs.HistOff
/-!
# Counts (K1), stored addresses (K5), gates (K4), union slots (K6)

On the probe of a state that satisfies the history invariants the counts are the owners (K1) and the stored addresses
are what the kinds prescribe (K5); a gate answers "sole owner" and a gate that declines does nothing (K4); no op but
`drop` / `dropAll` removes or rewrites a union handle (`step_keep`, K6).
-/
namespace M1
namespace Mon

theorem K1_state {s : State} (hi : Inv s) (o : Obs) (ho : o.slots = observeSlots s) : checkK1 o = [] := by
  unfold checkK1
  rw [List.filterMap_eq_nil_iff]
  intro e he
  rw [ho] at he
  cases hc : e.2.cnt with
  | none => rfl
  | some n => simp only [ho, ownersO_observe, probe_cnt hi he hc, beq_self_eq_true, if_true]

theorem blockAddrKind_true {k : Kind} (h : blockAddrKind k = true) :
    k = .arc ∨ k = .uniq ∨ k = .thin ∨ k = .rawThin := by
  cases k <;> simp_all [blockAddrKind]

theorem blockAddrKind_false {k : Kind} (h : blockAddrKind k = false) :
    k = .raw ∨ k = .offset ∨ k = .unionA ∨ k = .unionB := by
  cases k <;> simp_all [blockAddrKind]

theorem dataOff_pos (t : Ty) (n : Nat) : t.dataOff n ≠ 0 := by
  rw [dataOff_values]; split <;> decide

theorem K5_run (ops : List Op) (o : Obs) (ho : o.slots = observeSlots (run ops)) : checkK5 o = [] := by
  unfold checkK5
  rw [List.append_eq_nil_iff, List.filterMap_eq_nil_iff, List.flatMap_eq_nil_iff]
  have hinv := inv_run ops
  have hoff := offinv_run ops
  refine ⟨?_, ?_⟩
  · intro e he
    rw [ho] at he
    obtain ⟨h, hm, he2⟩ := mem_observe he
    unfold k5One
    rw [he2]
    by_cases hk : blockAddrKind h.kind = true
    · simp only [slotObs, hk, hoff.blk_addr e.1 h hm (blockAddrKind_true hk), beq_self_eq_true, if_true]
    · simp only [slotObs, hk, hoff.data_addr e.1 h hm (blockAddrKind_false (Bool.not_eq_true _ ▸ hk)), beq_iff_eq,
        dataOff_pos, Bool.false_eq_true, if_false]
  · intro e he
    rw [List.filterMap_eq_nil_iff]
    intro e' he'
    rw [ho] at he he'
    obtain ⟨h, hm, he2⟩ := mem_observe he
    obtain ⟨h', hm', he2'⟩ := mem_observe he'
    unfold k5Pair
    rw [he2, he2', if_neg]
    simp only [slotObs, Bool.and_eq_true, Bool.not_eq_true', beq_iff_eq, bne_iff_ne, ne_eq, not_and, Decidable.not_not]
    rintro ⟨⟨⟨_, hk⟩, hk'⟩, hb⟩
    have hl : lookup (run ops) e.1 = some h := mem_lookupL hinv.keys hm
    have hl' : lookup (run ops) e'.1 = some h' := mem_lookupL hinv.keys hm'
    rw [data_kind_stores_value_address ops e.1 h hl (blockAddrKind_false hk),
      data_kind_stores_value_address ops e'.1 h' hl' (blockAddrKind_false hk'),
      same_block_same_data_address ops e.1 e'.1 h h' hl hl' hb]

theorem k4_badOp {pre : List (Nat × SlotObs)} {op : Op} {o : Obs} (hb : o.badOp = true) : checkK4 pre op o = [] := by
  unfold checkK4
  split
  · rfl
  · simp [hb]

theorem k4_of {pre : List (Nat × SlotObs)} {op : Op} {o : Obs} {src : Nat} {p : SlotObs} {v : Bool}
    (hsrc : gateSrc op = some src) (hp : lookupO pre src = some p) (hv : o.verdict = some v)
    (h1 : v = (ownersO pre p.blk == 1))
    (h2 : v = false → lookupO o.slots src = some p ∧ o.evs = []) : checkK4 pre op o = [] := by
  cases v with
  | true => simp [checkK4, hsrc, hp, hv, ← h1]
  | false =>
    obtain ⟨h3, h4⟩ := h2 rfl
    simp [checkK4, hsrc, hp, hv, ← h1, h3, h4]

theorem k4_gate {s s' : State} (hi : Inv s) {op : Op} {src : Nat} {h : HV} {x : String}
    (hsrc : gateSrc op = some src) (hl : lookup s src = some h) (e : step s op = (s', ok x))
    (hv : verdictOf op (ok x) = some (Arc.is_unique s.mem h))
    (hd : Arc.is_unique s.mem h = false → s' = s) :
    checkK4 (observeSlots s) op (observe s op) = [] := by
  refine k4_of hsrc (lookupO_pre hl) (by rw [observe_eq e]; exact hv) (sole_owner hi hl) ?_
  intro hu
  rw [observe_eq e, hd hu]
  exact ⟨lookupO_pre hl, by simp⟩

theorem K4_sound {s : State} (hi : Inv s) (op : Op) : checkK4 (observeSlots s) op (observe s op) = [] := by
  obtain ⟨r, e, hr⟩ := step_cases s op
  cases hr with
  | bad => exact k4_badOp (by rw [observe_bad e])
  | isUnique hl _ => exact k4_gate hi rfl hl e (verdict_isUnique _ _) (fun _ => rfl)
  | getMutSome hl _ hu | getUniqueSome hl _ hu | tryUniqueOk hl _ hu =>
    exact k4_gate hi rfl hl e (by rw [hu]; rfl) (by rw [hu]; intro h; cases h)
  | getMutNone hl _ hu | getUniqueNone hl _ hu | tryUniqueErr hl _ hu | tryUnwrapErr hl _ hu =>
    exact k4_gate hi rfl hl e (by rw [hu]; rfl) (fun _ => rfl)
  | tryUnwrapOk hl _ hu =>
    exact k4_gate hi rfl hl e (by rw [hu]; exact verdict_tryUnwrap_ok _ _) (by rw [hu]; intro h; cases h)
  | _ => rfl

def KeepL (sl0 sl : Slots) : Prop :=
  ∀ (i : Nat) (h : HV), lookupL sl0 i = some h → unionKind h.kind = true → lookupL sl i = some h

def NotUnionAt (sl : Slots) (i : Nat) : Prop := ∀ hs, lookupL sl i = some hs → unionKind hs.kind = false

theorem NotUnionAt.ne {sl0 : Slots} {src : Nat} (hn : NotUnionAt sl0 src) {i : Nat} {h : HV}
    (hl : lookupL sl0 i = some h) (hu : unionKind h.kind = true) : i ≠ src := by
  intro e; subst e
  rw [hn h hl] at hu; cases hu

theorem notUnionAt_of {s : State} {src : Nat} {h : HV} (hl : lookup s src = some h) (hk : unionKind h.kind = false) :
    NotUnionAt s.slots src := by
  intro hs h2
  rw [← lookup_eq, hl] at h2; cases h2; exact hk

namespace KeepL
variable {sl0 sl : Slots}

theorem refl (sl : Slots) : KeepL sl sl := fun _ _ h _ => h

theorem back (hk : KeepL sl0 sl) {src : Nat} (hn : NotUnionAt sl src) : NotUnionAt sl0 src := fun h hl =>
  Bool.eq_false_iff.2 fun hu => by
    have := hn h (hk src h hl hu)
    rw [hu] at this; cases this

theorem put (hk : KeepL sl0 sl) {dst : Nat} (hd : lookupL sl dst = none) (c : HV) : KeepL sl0 ((dst, c) :: sl) := by
  intro i h hl hu
  have hne : dst ≠ i := by
    intro e; subst e
    rw [hk _ h hl hu] at hd; cases hd
  rw [lookupL_cons_ne hne]
  exact hk i h hl hu

theorem del (hk : KeepL sl0 sl) {src : Nat} (hn : NotUnionAt sl0 src) : KeepL sl0 (delL sl src) := by
  intro i h hl hu
  rw [lookupL_delL, if_neg (hn.ne hl hu)]
  exact hk i h hl hu

theorem set (hk : KeepL sl0 sl) {src : Nat} (hn : NotUnionAt sl0 src) (h' : HV) : KeepL sl0 (setL sl src h') := by
  intro i h hl hu
  rw [lookupL_setL_ne _ _ (hn.ne hl hu)]
  exact hk i h hl hu

end KeepL

/-- `hsrc`: under `ThinArc::with_arc_mut` the lending slot `src` held a `ThinArc` when the op began, so writing it back
(`replaced`, `swapped`) touches no union handle; the other slot these actions change holds a `ThinArc` now -/
theorem CbStep.keep {sl0 : Slots} {api : CbApi} {src : Nat} (hsrc : api = .thinWithArcMut → NotUnionAt sl0 src)
    {s s' : State} {t t' : HV} {a : CbAct} {tk : CbTok} {piece : String} (h : CbStep api src s t a s' t' tk piece)
    (hp : KeepL sl0 s.slots) : KeepL sl0 s'.slots := by
  cases h with
  | cnt | read | skip | mutNone | mutSome => exact hp
  | cloned hk | clonedArc hk => exact hp.put hk _
  | replaced ha _ hlk hthin =>
    exact (hp.del (hp.back (notUnionAt_of hlk (by rw [hthin]; rfl)))).set (hsrc ha) _
  | swapped ha _ hlk hthin =>
    exact (hp.set (hp.back (notUnionAt_of hlk (by rw [hthin]; rfl))) _).set (hsrc ha) _

theorem runConv_notUnion {m : Mem} {h h' : HV} {c : Conv} (hc : runConv m h c = some h') :
    unionKind h.kind = false := by
  -- each conversion asks for one kind, or for `arc` or `uniq`
  cases runConv_graph hc with
  | intoRaw hg | intoRawOffset hg | unionFirst hg | unionSecond hg | eraseHeader hg | addHeader hg | shareable hg
  | toDynArc hg | toDynUniq hg => rw [hg.1]; rfl
  | fromRaw hg | fromRawOffset hg | fromThin hg | thinIntoRaw hg | thinFromRaw hg => rw [hg]; rfl
  | assumeMu hg | assumeMuSlice hg | assumeHsMu hg => rcases hg.1 with hk | hk <;> rw [hk] <;> rfl

theorem keep_mem {sl0 : Slots} {s : State} (h : KeepL sl0 s.slots) (m : Mem) : KeepL sl0 (State.mk m s.slots).slots := h

theorem step_keep (s : State) (op : Op) (hop : k6Applies op = true) : KeepL s.slots (step s op).1.slots := by
  have R := KeepL.refl s.slots
  obtain ⟨r, e, hr⟩ := step_cases s op
  rw [e]
  cases hr with
  | drop | dropAll => cases hop
  | bad | createOverflow | isUnique | getMutSome | getMutNone | getUniqueSome | getUniqueNone | makeMutPanic
  | makeUniquePanic | tryUnwrapErr | tryUniqueErr | uniqWrite | writeSlot | writeSlotRefused | iterPanicked => exact R
  | create hd | iterBuilt hd | clone hd | cloneArc hd => exact R.put hd _
  | conv hl hc => exact R.set (notUnionAt_of hl (runConv_notUnion hc)) _
  | intoThin hl hk | makeMut hl hk | makeUnique hl hk | tryUniqueOk hl hk =>
    exact R.set (notUnionAt_of hl (by rw [hk.1]; rfl)) _
  | makeMutOffset hl hk => exact R.set (notUnionAt_of hl (by rw [hk]; rfl)) _
  | intoThinRefused hl hk | tryUnwrapOk hl hk | unwrapOrCloneSole hl hk | unwrapOrClonePanic hl hk
  | unwrapOrCloneShared hl hk | intoInner hl hk => exact R.del (notUnionAt_of hl (by rw [hk.1]; rfl))
  | @withCb src api script h t hl ht =>
    have hsrc : api = .thinWithArcMut → NotUnionAt s.slots src := by
      rintro rfl
      cases transientOf_graph ht with
      | thinWithArcMut hk => exact notUnionAt_of hl (by rw [hk]; rfl)
    exact (runCb_preserves api src (fun s' _ => KeepL s.slots s'.slots) (CbStep.keep hsrc) script s t "" R).elim
      fun _ h => h

theorem K6_sound {s : State} (hi : Inv s) (op : Op) : checkK6 (observeSlots s) op (observe s op) = [] := by
  unfold checkK6
  split
  · rename_i hop
    rw [List.filterMap_eq_nil_iff]
    intro e he
    obtain ⟨h, hm, he2⟩ := mem_observe he
    have hl : lookupL s.slots e.1 = some h := mem_lookupL hi.keys hm
    unfold k6One
    rw [he2]
    by_cases hu : unionKind h.kind = true
    · have : lookupO (observe s op).slots e.1 = _ :=
        lookupO_pre (s := (step s op).1) (step_keep s op hop e.1 h hl hu)
      simp [this, slotObs, hu]
    · simp [slotObs, hu]
  · rfl

end Mon
end M1
