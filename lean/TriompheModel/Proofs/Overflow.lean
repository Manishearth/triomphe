import TriompheModel.Model.Overflow
/-!
# The overflow guard under the good facts (C16)

Everything is parametric in the guard facts `G`; the only thing assumed about them is `Good G = true` — a decidable
predicate which `Props/C16.lean` evaluates in the kernel on the regenerated facts; under it the guard is one `if`
(`guardCheck_good`).  `Inv` and `CInv` are the invariants of the sequential and of the concurrent machine.
-/
namespace Overflow
open Facts

deriving instance DecidableEq for Except

def terminated {α : Type} : Except Abort α → Bool
  | .error a => a.terminates
  | .ok _ => false

theorem good_fields {G : GuardFacts} (h : Good G = true) :
    G.max = .isizeMax ∧ G.guard = ⟨.gt, none⟩ ∧ G.onOld = true ∧ G.action = .callsAbort ∧
    G.abortImpl.terminates = true := by
  simp only [Good, Bool.and_eq_true, beq_iff_eq] at h
  obtain ⟨⟨⟨⟨h1, h2⟩, h3⟩, h4⟩, h5⟩ := h
  exact ⟨h1, h2, h3, h4, h5⟩

theorem good_evalGuard {G : GuardFacts} (h : Good G = true) (bits old : Nat) :
    evalGuard G.guard G.max G.onOld bits old = some (decide (old > 2 ^ (bits - 1) - 1)) := by
  obtain ⟨h1, h2, h3, _, _⟩ := good_fields h
  simp [evalGuard, h1, h2, h3, maxValue, evalCmp]

theorem good_onFire {G : GuardFacts} (h : Good G = true) :
    ∃ a, onFire G = some a ∧ a.terminates = true := by
  obtain ⟨_, _, _, h4, h5⟩ := good_fields h
  cases hi : G.abortImpl with
  | processAbort => exact ⟨.processAbort, by simp [onFire, h4, hi], rfl⟩
  | doublePanic => exact ⟨.doublePanic, by simp [onFire, h4, hi], rfl⟩
  | singlePanic => rw [hi] at h5; simp [AbortImpl.terminates] at h5
  | unknown => rw [hi] at h5; simp [AbortImpl.terminates] at h5

theorem guardCheck_good {G : GuardFacts} (h : Good G = true) :
    ∃ a, a.terminates = true ∧ ∀ {α : Type} (bits old : Nat) (new : α),
      guardCheck G bits old new = if old < 2 ^ (bits - 1) then .ok new else .error a := by
  obtain ⟨a, ha, hta⟩ := good_onFire h
  refine ⟨a, hta, fun bits old new => ?_⟩
  have : 0 < 2 ^ (bits - 1) := Nat.two_pow_pos _
  simp only [guardCheck, good_evalGuard h, ha]
  by_cases hlt : old < 2 ^ (bits - 1)
  · rw [if_pos hlt, decide_eq_false (by omega)]
  · rw [if_neg hlt, decide_eq_true (by omega)]

theorem guardCheck_ok {α : Type} {G : GuardFacts} (h : Good G = true) (bits old : Nat) (new : α)
    (hle : old ≤ 2 ^ (bits - 1) - 1) : guardCheck G bits old new = .ok new := by
  obtain ⟨a, _, hg⟩ := guardCheck_good h
  rw [hg, if_pos ((Nat.le_sub_one_iff_lt (Nat.two_pow_pos _)).mp hle)]

theorem guardCheck_abort {α : Type} {G : GuardFacts} (h : Good G = true) (bits old : Nat) (new : α)
    (hgt : old > 2 ^ (bits - 1) - 1) :
    ∃ a, guardCheck G bits old new = .error a ∧ a.terminates = true := by
  obtain ⟨a, hta, hg⟩ := guardCheck_good h
  have hge : 2 ^ (bits - 1) ≤ old := Nat.le_of_pred_lt hgt
  exact ⟨a, by rw [hg, if_neg (Nat.not_lt.mpr hge)], hta⟩

theorem guardCheck_terminated_iff {α : Type} {G : GuardFacts} (h : Good G = true) (bits old : Nat)
    (new : α) : terminated (guardCheck G bits old new) = true ↔ old > 2 ^ (bits - 1) - 1 := by
  constructor
  · intro ht
    by_cases hle : old ≤ 2 ^ (bits - 1) - 1
    · rw [guardCheck_ok h bits old new hle] at ht; simp [terminated] at ht
    · omega
  · intro hgt
    obtain ⟨a, ha, hta⟩ := guardCheck_abort h bits old new hgt
    rw [ha]; exact hta

theorem fetchAdd_small {bits w : Nat} (h : w + 1 < 2 ^ bits) : fetchAddNat bits w = w + 1 :=
  Nat.mod_eq_of_lt h

theorem fetchSub_succ {bits w : Nat} (h : w + 1 < 2 ^ bits) : fetchSubNat bits (w + 1) = w := by
  rw [fetchSubNat, Nat.add_right_comm, Nat.add_sub_cancel, Nat.add_mod_right, Nat.mod_eq_of_lt (Nat.lt_of_succ_lt h)]

theorem two_pow_pred {bits : Nat} (hb : 1 ≤ bits) : 2 ^ bits = 2 * 2 ^ (bits - 1) := by
  rw [Nat.mul_comm, Nat.two_pow_pred_mul_two hb]

theorem pow_facts {bits : Nat} (hb : 2 ≤ bits) :
    2 ^ bits = 2 * 2 ^ (bits - 1) ∧ 2 ≤ 2 ^ (bits - 1) :=
  ⟨two_pow_pred (Nat.le_of_succ_le hb), Nat.one_lt_two_pow (Nat.sub_ne_zero_of_lt hb)⟩

/-- The invariant of the sequential machine (`M = 2^(bits-1) = MAX_REFCOUNT + 1`). -/
def Inv (bits : Nat) (s : St) : Prop :=
  s.word = s.live + s.forgotten + (if s.aborted then 1 else 0) ∧
  s.live + s.forgotten ≤ 2 ^ (bits - 1) ∧
  (s.freed = true ↔ s.live + s.forgotten = 0)

theorem inv_init (bits : Nat) : Inv bits St.init := by
  have : 0 < 2 ^ (bits - 1) := Nat.two_pow_pos _
  refine ⟨by simp [St.init], by simp [St.init]; omega, by simp [St.init]⟩

theorem step_idle (G : GuardFacts) (bits : Nat) {s : St} (h : (s.aborted || s.live == 0) = true) (o : Op) :
    step G bits s o = s := by
  cases o <;> simp only [step, h, if_true]

theorem inv_step {G : GuardFacts} (hG : Good G = true) {bits : Nat} (hb : 2 ≤ bits) (s : St)
    (hi : Inv bits s) (o : Op) : Inv bits (step G bits s o) := by
  by_cases hc : (s.aborted || s.live == 0) = true
  · rw [step_idle G bits hc]; exact hi
  obtain ⟨a, hta, hgc⟩ := guardCheck_good hG
  -- a running state with the invariant is `⟨l + f + 1, l + 1, f, false, false⟩`: with the word substituted and the
  -- predecessor of `live` named, no truncated subtraction is left for `omega` to split on
  obtain ⟨w, _ | l, f, _ | _, fr⟩ := s <;>
    simp only [Bool.or_true, Bool.true_or, Bool.false_or, beq_self_eq_true, not_true] at hc
  obtain ⟨hw, hle, hfr⟩ := hi
  simp only [Bool.false_eq_true, if_false, Nat.add_zero, Nat.add_right_comm l 1 f] at hw hle hfr
  subst hw
  obtain rfl : fr = false := Bool.eq_false_iff.mpr fun h => Nat.succ_ne_zero _ (hfr.mp h)
  have hlt : l + f + 1 + 1 < 2 ^ bits := by
    obtain ⟨hp, hM⟩ := pow_facts hb
    omega
  unfold Inv
  cases o with
  | clone =>
    simp only [step, cloneNat, hgc, fetchAdd_small hlt, Bool.false_or, beq_iff_eq, Nat.add_one_ne_zero, if_false]
    by_cases hM : l + f + 1 < 2 ^ (bits - 1)
    · simp only [hM, if_true, Bool.false_eq_true, if_false, false_iff]
      omega
    · simp only [hM, hta, if_false, if_true, Bool.false_eq_true, false_iff]
      omega
  | drop =>
    simp only [step, fetchSub_succ (Nat.lt_of_succ_lt hlt), Bool.false_or, beq_iff_eq, Nat.add_one_ne_zero, if_false,
      Bool.false_eq_true, Nat.add_sub_cancel]
    omega
  | forget =>
    simp only [step, Bool.false_or, beq_iff_eq, Nat.add_one_ne_zero, if_false, Bool.false_eq_true, false_iff,
      Nat.add_sub_cancel]
    omega

/-- number of pending clones whose check will pass (old value ≤ MAX_REFCOUNT) -/
def okPending (bits : Nat) (l : List Nat) : Nat := l.countP (fun o => decide (o < 2 ^ (bits - 1)))

def CInv (bits n : Nat) (s : CSt) : Prop :=
  s.aborted = false →
    s.word = s.live + s.forgotten + s.pending.length ∧
    s.live + s.forgotten + okPending bits s.pending ≤ 2 ^ (bits - 1) ∧
    s.pending.length ≤ n

theorem okPending_le (bits : Nat) (l : List Nat) : okPending bits l ≤ l.length := List.countP_le_length

theorem okPending_append (bits : Nat) (l : List Nat) (o : Nat) :
    okPending bits (l ++ [o]) = okPending bits l + (if o < 2 ^ (bits - 1) then 1 else 0) := by
  simp [okPending, List.countP_append, List.countP_cons]

theorem okPending_eraseIdx (bits : Nat) (l : List Nat) (i : Nat) (o : Nat) (h : l[i]? = some o) :
    okPending bits l = okPending bits (l.eraseIdx i) + (if o < 2 ^ (bits - 1) then 1 else 0) := by
  induction l generalizing i with
  | nil => simp at h
  | cons x xs ih =>
    cases i with
    | zero =>
      simp only [List.getElem?_cons_zero, Option.some.injEq] at h
      subst h
      simp [okPending, List.countP_cons]
    | succ j =>
      simp only [List.getElem?_cons_succ] at h
      have := ih j h
      simp only [okPending, List.eraseIdx_cons_succ, List.countP_cons] at this ⊢
      omega

theorem length_eraseIdx_of_some (l : List Nat) (i : Nat) (o : Nat) (h : l[i]? = some o) :
    (l.eraseIdx i).length + 1 = l.length := by
  obtain ⟨hi, _⟩ := List.getElem?_eq_some_iff.mp h
  rw [List.length_eraseIdx, if_pos hi, Nat.sub_add_cancel (Nat.zero_lt_of_lt hi)]

theorem cinv_init (bits n : Nat) : CInv bits n CSt.init := by
  intro _
  have : 0 < 2 ^ (bits - 1) := Nat.two_pow_pos _
  simp [CSt.init, okPending]; omega

/-- `hn`: the word holds `MAX_REFCOUNT + 1` handles and `n` clones in flight. -/
theorem cinv_step {G : GuardFacts} (hG : Good G = true) {bits n : Nat} (hn : 2 ^ (bits - 1) + n < 2 ^ bits)
    (s : CSt) (hi : CInv bits n s) (o : COp) : CInv bits n (cstep G bits n s o) := by
  obtain ⟨a, hta, hgc⟩ := guardCheck_good hG
  obtain ⟨w, live, f, pend, _ | _⟩ := s
  case true =>
    have : cstep G bits n ⟨w, live, f, pend, true⟩ o = ⟨w, live, f, pend, true⟩ := by
      cases o <;> simp [cstep]
    rw [this]; exact hi
  obtain ⟨hw, hle, hlen⟩ := hi rfl
  have hok := okPending_le bits pend
  simp only at hw hle hlen
  subst hw
  cases o with
  | fetchAdd =>
    by_cases hc : (live == 0 || decide (pend.length ≥ n)) = true
    · simp only [cstep, Bool.false_or, hc, if_true]; exact hi
    · have hc' := hc
      simp only [Bool.or_eq_true, beq_iff_eq, decide_eq_true_eq, not_or] at hc'
      have hadd : fetchAddNat bits (live + f + pend.length) = _ := fetchAdd_small (by omega)
      simp only [CInv, cstep, Bool.false_or, hc, if_false, hadd, List.length_append, List.length_cons, List.length_nil,
        okPending_append, Bool.false_eq_true]
      intro _
      split <;> omega
  | check i =>
    simp only [cstep, Bool.false_eq_true, if_false]
    cases hg : pend[i]? with
    | none => exact hi
    | some old =>
      have hcnt := okPending_eraseIdx bits pend i old hg
      have hlen' := length_eraseIdx_of_some pend i old hg
      simp only [CInv, hgc]
      by_cases hold : old < 2 ^ (bits - 1)
      · simp only [hold, if_true] at hcnt ⊢
        intro _
        omega
      · simp only [hold, if_false, hta, if_true]
        intro h; cases h
  | drop =>
    cases live with
    | zero => exact hi
    | succ l =>
      have hsub : fetchSubNat bits (l + 1 + f + pend.length) = l + f + pend.length := by
        rw [Nat.add_right_comm l, Nat.add_right_comm (l + f)]; exact fetchSub_succ (by omega)
      simp only [CInv, cstep, Bool.false_or, beq_iff_eq, Nat.add_one_ne_zero, if_false, hsub, Nat.add_sub_cancel,
        true_and]
      intro _
      omega
  | forget =>
    cases live with
    | zero => exact hi
    | succ l =>
      simp only [CInv, cstep, Bool.false_or, beq_iff_eq, Nat.add_one_ne_zero, if_false, Nat.add_sub_cancel]
      intro _
      omega

end Overflow
