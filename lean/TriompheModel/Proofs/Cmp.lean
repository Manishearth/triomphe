import TriompheModel.Model.Cmp
/-!
# Lawful payloads (C14, model M5)

`Lawful` is what the Rust documentation of `PartialEq`/`PartialOrd`/`Ord`/`Hash` demands of an
implementation; it is used only for the *consistency* half of C14.  It does **not** demand
reflexivity (floats are `Lawful`, NaN included).  The impls of the crate pass it on: from the payloads to slices,
`HeaderSlice`, `HeaderSlice<HeaderWithLength<H>, T>` and, pair by pair, to the handles.
-/
namespace Cmp

structure ConsistentAt {β : Type} (Q : PayloadOps β) (x y : β) : Prop where
  ne_eq : Q.ne x y = !Q.eq x y
  lt_pc : Q.lt x y = isLt (Q.partialCmp x y)
  le_pc : Q.le x y = isLe (Q.partialCmp x y)
  gt_pc : Q.gt x y = isGt (Q.partialCmp x y)
  ge_pc : Q.ge x y = isGe (Q.partialCmp x y)
  eq_pc : Q.eq x y = (Q.partialCmp x y == some .eq)

/-- `PartialEq` + `PartialOrd` contract: `ne` is the complement of `eq`, `lt le gt ge` agree with
`partial_cmp`, and `a == b` iff `partial_cmp(a, b) == Some(Equal)`. -/
def Lawful {β : Type} (Q : PayloadOps β) : Prop := ∀ x y, ConsistentAt Q x y

/-- `Ord` + `Hash` contract on a pair: `partial_cmp` is `Some(cmp)`; equal values hash equally. -/
structure OrdConsistentAt {β : Type} (Q : PayloadOps β) (x y : β) : Prop where
  pc_cmp : Q.partialCmp x y = some (Q.cmp x y)
  eq_hash : Q.eq x y = true → Q.hash x = Q.hash y

def LawfulOrd {β : Type} (Q : PayloadOps β) : Prop := Lawful Q ∧ ∀ x y, OrdConsistentAt Q x y

theorem thenPartial_eq_some_eq (o r : Option Ordering) :
    (thenPartial o r == some .eq) = ((o == some .eq) && (r == some .eq)) := by
  cases o with
  | none => rfl
  | some v => cases v <;> simp [thenPartial]

theorem thenOrd_some (a b : Ordering) :
    thenPartial (some a) (some b) = some (thenOrd a b) := by
  cases a <;> rfl

theorem thenPartial_tie {o r : Option Ordering} (h : o = some .eq → r = some .eq) : thenPartial o r = o := by
  cases o with
  | none => rfl
  | some v =>
    cases v with
    | eq => exact h rfl
    | lt | gt => rfl

theorem thenOrd_tie {o r : Ordering} (h : o = .eq → r = .eq) : thenOrd o r = o := by
  cases o with
  | eq => exact h rfl
  | lt | gt => rfl

theorem consistent_usize (x y : Nat) : ConsistentAt usizeOps x y := by
  -- every operator of `usize` is a function of the three-way comparison; then check the three orderings
  have hlt : decide (x < y) = (compare x y == .lt) := decide_eq_decide.mpr Nat.compare_eq_lt.symm
  have hgt : decide (y < x) = (compare x y == .gt) := decide_eq_decide.mpr Nat.compare_eq_gt.symm
  have heq : (x == y) = (compare x y == .eq) := decide_eq_decide.mpr Nat.compare_eq_eq.symm
  have hle : decide (x ≤ y) = !(compare x y == .gt) :=
    (decide_eq_decide.mpr Nat.not_lt.symm).trans (decide_not.trans (congrArg not hgt))
  have hge : decide (y ≤ x) = !(compare x y == .lt) :=
    (decide_eq_decide.mpr Nat.not_lt.symm).trans (decide_not.trans (congrArg not hlt))
  have hpc : usizeOps.partialCmp x y = some (compare x y) := rfl
  refine ⟨rfl, hlt.trans ?_, hle.trans ?_, hgt.trans ?_, hge.trans ?_, heq.trans ?_⟩ <;>
    (rw [hpc]; cases compare x y <;> rfl)

/-! ### slices -/

theorem elemDiffers_lawful {α : Type} (c : StdCfg) {P : PayloadOps α} (hP : Lawful P) (x y : α) :
    elemDiffers c P x y = !P.eq x y := by
  unfold elemDiffers
  cases c.sliceEqViaNe <;> simp [(hP x y).ne_eq]

theorem sliceEq_nil_nil {α : Type} (c : StdCfg) (P : PayloadOps α) : sliceEq c P [] [] = true := rfl

theorem sliceEq_nil_cons {α : Type} (c : StdCfg) (P : PayloadOps α) (y : α) (ys : List α) :
    sliceEq c P [] (y :: ys) = false := rfl

theorem sliceEq_cons_nil {α : Type} (c : StdCfg) (P : PayloadOps α) (x : α) (xs : List α) :
    sliceEq c P (x :: xs) [] = false := rfl

theorem sliceEq_cons_cons {α : Type} (c : StdCfg) (P : PayloadOps α) (x y : α) (xs ys : List α) :
    sliceEq c P (x :: xs) (y :: ys) = (!elemDiffers c P x y && sliceEq c P xs ys) := by
  show (if xs.length + 1 == ys.length + 1 then (if elemDiffers c P x y then false else sliceEqLoop c P xs ys) else false) = _
  rw [show (xs.length + 1 == ys.length + 1) = (xs.length == ys.length) from
    decide_eq_decide.mpr Nat.add_right_cancel_iff, sliceEq]
  cases elemDiffers c P x y <;> cases (xs.length == ys.length) <;> rfl

theorem sliceEq_length {α : Type} (c : StdCfg) (P : PayloadOps α) (xs ys : List α)
    (h : sliceEq c P xs ys = true) : xs.length = ys.length := by
  unfold sliceEq at h
  by_cases hl : xs.length = ys.length
  · exact hl
  · simp [hl] at h

theorem slicePartialCmp_eq_length {α : Type} (P : PayloadOps α) :
    ∀ (xs ys : List α), slicePartialCmp P xs ys = some .eq → xs.length = ys.length
  | [], [], _ => rfl
  | [], _ :: _, h => by simp [slicePartialCmp] at h
  | _ :: _, [], h => by simp [slicePartialCmp] at h
  | x :: xs, y :: ys, h => by
    rw [slicePartialCmp] at h
    split at h
    · exact congrArg Nat.succ (slicePartialCmp_eq_length P xs ys h)
    · rename_i hne; exact absurd h hne

theorem sliceCmp_eq_length {α : Type} (P : PayloadOps α) :
    ∀ (xs ys : List α), sliceCmp P xs ys = .eq → xs.length = ys.length
  | [], [], _ => rfl
  | [], _ :: _, h => by simp [sliceCmp] at h
  | _ :: _, [], h => by simp [sliceCmp] at h
  | x :: xs, y :: ys, h => by
    rw [sliceCmp] at h
    split at h
    · exact congrArg Nat.succ (sliceCmp_eq_length P xs ys h)
    · rename_i hne; exact absurd h hne

theorem slicePartialCmp_cons {α : Type} (P : PayloadOps α) (x y : α) (xs ys : List α) :
    slicePartialCmp P (x :: xs) (y :: ys) =
      (match P.partialCmp x y with
       | some .eq => slicePartialCmp P xs ys
       | o => o) := by
  rw [slicePartialCmp]
  cases P.partialCmp x y with
  | none => rfl
  | some v => cases v <;> rfl

theorem sliceEq_pc {α : Type} (c : StdCfg) {P : PayloadOps α} (hP : Lawful P) :
    ∀ (xs ys : List α), sliceEq c P xs ys = (slicePartialCmp P xs ys == some .eq)
  | [], [] => rfl
  | [], _ :: _ => rfl
  | _ :: _, [] => rfl
  | x :: xs, y :: ys => by
    rw [sliceEq_cons_cons, elemDiffers_lawful c hP, sliceEq_pc c hP xs ys, (hP x y).eq_pc,
      slicePartialCmp_cons]
    cases hp : P.partialCmp x y with
    | none => simp
    | some v => cases v <;> simp

theorem slice_pc_cmp {α : Type} {P : PayloadOps α} (hP : ∀ x y, P.partialCmp x y = some (P.cmp x y)) :
    ∀ (xs ys : List α), slicePartialCmp P xs ys = some (sliceCmp P xs ys)
  | [], [] => rfl
  | [], _ :: _ => rfl
  | _ :: _, [] => rfl
  | x :: xs, y :: ys => by
    unfold slicePartialCmp sliceCmp
    rw [hP x y]
    cases P.cmp x y <;> simp [slice_pc_cmp hP xs ys]

theorem sliceEq_hashEach {α : Type} (c : StdCfg) {P : PayloadOps α} (hP : Lawful P)
    (hH : ∀ x y, P.eq x y = true → P.hash x = P.hash y) :
    ∀ (xs ys : List α), sliceEq c P xs ys = true → hashEach P xs = hashEach P ys
  | [], [], _ => rfl
  | [], _ :: _, h => by simp [sliceEq_nil_cons] at h
  | _ :: _, [], h => by simp [sliceEq_cons_nil] at h
  | x :: xs, y :: ys, h => by
    rw [sliceEq_cons_cons, elemDiffers_lawful c hP] at h
    simp at h
    simp [hashEach, hH x y h.1, sliceEq_hashEach c hP hH xs ys h.2]

theorem lawful_slice {α : Type} (c : StdCfg) {P : PayloadOps α} (hP : Lawful P) :
    Lawful (sliceOps c P) := fun xs ys =>
  { ne_eq := rfl, lt_pc := rfl, le_pc := rfl, gt_pc := rfl, ge_pc := rfl
    eq_pc := sliceEq_pc c hP xs ys }

theorem lawfulOrd_slice {α : Type} (c : StdCfg) {P : PayloadOps α} (hP : LawfulOrd P) :
    LawfulOrd (sliceOps c P) :=
  ⟨lawful_slice c hP.1, fun xs ys =>
    { pc_cmp := slice_pc_cmp (fun x y => (hP.2 x y).pc_cmp) xs ys
      eq_hash := fun h => by
        show sliceHash P xs = sliceHash P ys
        unfold sliceHash
        rw [sliceEq_length c P xs ys h, sliceEq_hashEach c hP.1 (fun x y => (hP.2 x y).eq_hash) xs ys h] }⟩

/-! ### header-slice types -/

theorem lawful_hs {η σ : Type} {PH : PayloadOps η} {PS : PayloadOps σ} (hH : Lawful PH) (hS : Lawful PS) :
    Lawful (hsOps PH PS) := fun x y =>
  { ne_eq := rfl, lt_pc := rfl, le_pc := rfl, gt_pc := rfl, ge_pc := rfl
    eq_pc := by
      show (PH.eq x.header y.header && PS.eq x.slice y.slice) = _
      rw [(hH _ _).eq_pc, (hS _ _).eq_pc]
      exact (thenPartial_eq_some_eq _ _).symm }

theorem lawfulOrd_hs {η σ : Type} {PH : PayloadOps η} {PS : PayloadOps σ} (hH : LawfulOrd PH) (hS : LawfulOrd PS) :
    LawfulOrd (hsOps PH PS) :=
  ⟨lawful_hs hH.1 hS.1, fun x y =>
    { pc_cmp := by
        show thenPartial (PH.partialCmp x.header y.header) (PS.partialCmp x.slice y.slice) = _
        rw [(hH.2 _ _).pc_cmp, (hS.2 _ _).pc_cmp]
        exact thenOrd_some _ _
      eq_hash := fun h => by
        have h' : (PH.eq x.header y.header && PS.eq x.slice y.slice) = true := h
        simp at h'
        show PH.hash x.header ++ PS.hash x.slice = PH.hash y.header ++ PS.hash y.slice
        rw [(hH.2 _ _).eq_hash h'.1, (hS.2 _ _).eq_hash h'.2] }⟩

theorem hswl_eq_unfold {η σ : Type} (PH : PayloadOps η) (PS : PayloadOps σ) (x y : HSWL η σ) :
    (hswlOps PH PS).eq x y =
      ((PH.eq x.header.header y.header.header && usizeOps.eq x.header.length y.header.length) &&
        PS.eq x.slice y.slice) := rfl

theorem hswl_hash_unfold {η σ : Type} (PH : PayloadOps η) (PS : PayloadOps σ) (x : HSWL η σ) :
    (hswlOps PH PS).hash x = (PH.hash x.header.header ++ usizeBytes x.header.length) ++ PS.hash x.slice := rfl

/-- ordering and equality of `HeaderSlice<HeaderWithLength<H>, T>` agree for **every** value, also when the recorded
length is not the slice length: the ordering breaks its last tie on the recorded length (the repair of F2) -/
theorem lawful_hswl {η σ : Type} {PH : PayloadOps η} {PS : PayloadOps σ} (hH : Lawful PH) (hS : Lawful PS) :
    Lawful (hswlOps PH PS) := fun x y =>
  { ne_eq := rfl, lt_pc := rfl, le_pc := rfl, gt_pc := rfl, ge_pc := rfl
    eq_pc := by
      show _ = (hswlPartialCmp PH PS x y == some .eq)
      rw [hswl_eq_unfold, hswlPartialCmp, thenPartial_eq_some_eq, thenPartial_eq_some_eq, ← (hH _ _).eq_pc,
        ← (hS _ _).eq_pc, ← (consistent_usize _ _).eq_pc, Bool.and_assoc, Bool.and_comm (usizeOps.eq _ _)] }

theorem lawfulOrd_hswl {η σ : Type} {PH : PayloadOps η} {PS : PayloadOps σ} (hH : LawfulOrd PH) (hS : LawfulOrd PS) :
    LawfulOrd (hswlOps PH PS) :=
  ⟨lawful_hswl hH.1 hS.1, fun x y =>
    { pc_cmp := by
        show hswlPartialCmp PH PS x y = some (hswlCmp PH PS x y)
        unfold hswlPartialCmp hswlCmp
        rw [(hH.2 _ _).pc_cmp, (hS.2 _ _).pc_cmp]
        show thenPartial _ (thenPartial _ (some (usizeOps.cmp _ _))) = _
        rw [thenOrd_some, thenOrd_some]
      eq_hash := fun h => by
        rw [hswl_eq_unfold] at h
        simp at h
        rw [hswl_hash_unfold, hswl_hash_unfold, (hH.2 _ _).eq_hash h.1.1, eq_of_beq (α := Nat) h.1.2,
          (hS.2 _ _).eq_hash h.2] }⟩

theorem lawful_prot {η τ : Type} (c : StdCfg) {PH : PayloadOps η} {PT : PayloadOps τ}
    (hH : Lawful PH) (hT : Lawful PT) : Lawful (protOps c PH PT) := fun x y =>
  { ne_eq := rfl, lt_pc := rfl, le_pc := rfl, gt_pc := rfl, ge_pc := rfl
    eq_pc := (lawful_hswl hH (lawful_slice c hT) x.inner y.inner).eq_pc }

theorem lawfulOrd_prot {η τ : Type} (c : StdCfg) {PH : PayloadOps η} {PT : PayloadOps τ}
    (hH : LawfulOrd PH) (hT : LawfulOrd PT) : LawfulOrd (protOps c PH PT) :=
  ⟨lawful_prot c hH.1 hT.1, fun x y =>
    { pc_cmp := ((lawfulOrd_hswl hH (lawfulOrd_slice c hT)).2 x.inner y.inner).pc_cmp
      eq_hash := ((lawfulOrd_hswl hH (lawfulOrd_slice c hT)).2 x.inner y.inner).eq_hash }⟩

/-- for values whose recorded length is the slice length the tie-break never decides (`partial_cmp`, `cmp`, `==`),
for any payload: slices that compare equal are equally long -/
theorem hswl_pc_lenOk {η τ : Type} (c : StdCfg) (PH : PayloadOps η) (PT : PayloadOps τ)
    (x y : HSWL η (List τ)) (hx : lenOk x) (hy : lenOk y) :
    (hswlOps PH (sliceOps c PT)).partialCmp x y =
      thenPartial (PH.partialCmp x.header.header y.header.header) (slicePartialCmp PT x.slice y.slice) :=
  congrArg (thenPartial _) <| thenPartial_tie fun hs =>
    congrArg some (Nat.compare_eq_eq.mpr (hx.trans ((slicePartialCmp_eq_length PT _ _ hs).trans hy.symm)))

theorem hswl_cmp_lenOk {η τ : Type} (c : StdCfg) (PH : PayloadOps η) (PT : PayloadOps τ)
    (x y : HSWL η (List τ)) (hx : lenOk x) (hy : lenOk y) :
    (hswlOps PH (sliceOps c PT)).cmp x y =
      thenOrd (PH.cmp x.header.header y.header.header) (sliceCmp PT x.slice y.slice) :=
  congrArg (thenOrd _) <| thenOrd_tie fun hs =>
    Nat.compare_eq_eq.mpr (hx.trans ((sliceCmp_eq_length PT _ _ hs).trans hy.symm))

theorem hswl_eq_lenOk {η τ : Type} (c : StdCfg) (PH : PayloadOps η) (PT : PayloadOps τ)
    (x y : HSWL η (List τ)) (hx : lenOk x) (hy : lenOk y) :
    (hswlOps PH (sliceOps c PT)).eq x y =
      (PH.eq x.header.header y.header.header && sliceEq c PT x.slice y.slice) := by
  rw [hswl_eq_unfold]
  show ((PH.eq _ _ && _) && sliceEq c PT x.slice y.slice) = _
  cases hs : sliceEq c PT x.slice y.slice with
  | false => rw [Bool.and_false, Bool.and_false]
  | true =>
    have hl : usizeOps.eq x.header.length y.header.length = true :=
      beq_iff_eq.mpr (hx.trans ((sliceEq_length c PT _ _ hs).trans hy.symm))
    rw [hl, Bool.and_true]

/-! ### handles -/

/-- only `eq` and `ne` of `Arc` look at the allocation (`ptr_eq`); for distinct allocations they too are the payload's -/
theorem arc_see_through {α : Type} (P : PayloadOps α) (a b : Handle α) (h : a.alloc ≠ b.alloc)
    (o : Observer) : observe (arcOps P) o a b = observe P o a.val b.val := by
  have hp : ptrEq a b = false := beq_false_of_ne h
  cases o with
  | eq => show Res.bool (ptrEq a b || _) = _; rw [hp, Bool.false_or]; rfl
  | ne => show Res.bool (!ptrEq a b && _) = _; rw [hp, Bool.not_false, Bool.true_and]; rfl
  | _ => rfl

theorem arc_see_through_any {α : Type} (P : PayloadOps α) (a b : Handle α)
    (o : Observer) (h1 : o ≠ .eq) (h2 : o ≠ .ne) : observe (arcOps P) o a b = observe P o a.val b.val := by
  cases o with
  | eq => exact absurd rfl h1
  | ne => exact absurd rfl h2
  | _ => rfl

theorem arc_ne_eq {α : Type} {P : PayloadOps α} (hP : Lawful P) (a b : Handle α) :
    (arcOps P).ne a b = !(arcOps P).eq a b := by
  show (!ptrEq a b && P.ne a.val b.val) = !(ptrEq a b || P.eq a.val b.val)
  rw [(hP _ _).ne_eq, Bool.not_or]

theorem consistent_arc {α : Type} {P : PayloadOps α} (hP : Lawful P) (a b : Handle α)
    (hwf : a.WF b) (h : a.alloc ≠ b.alloc ∨ P.eq a.val a.val = true) : ConsistentAt (arcOps P) a b where
  ne_eq := arc_ne_eq hP a b
  lt_pc := (hP _ _).lt_pc
  le_pc := (hP _ _).le_pc
  gt_pc := (hP _ _).gt_pc
  ge_pc := (hP _ _).ge_pc
  eq_pc := by
    show (ptrEq a b || P.eq a.val b.val) = (P.partialCmp a.val b.val == some .eq)
    by_cases hab : a.alloc = b.alloc
    · rw [← hwf hab, ← (hP _ _).eq_pc, h.resolve_left fun hne => hne hab, Bool.or_true]
    · rw [ptrEq, beq_false_of_ne hab, Bool.false_or]; exact (hP _ _).eq_pc

theorem ordConsistent_arc {α : Type} {P : PayloadOps α} (hP : LawfulOrd P) (a b : Handle α)
    (hwf : a.WF b) : OrdConsistentAt (arcOps P) a b where
  pc_cmp := (hP.2 _ _).pc_cmp
  eq_hash := fun h => by
    show P.hash a.val = P.hash b.val
    by_cases hab : a.alloc = b.alloc
    · rw [hwf hab]
    · have : (ptrEq a b || P.eq a.val b.val) = true := h
      rw [ptrEq, beq_false_of_ne hab, Bool.false_or] at this
      exact (hP.2 _ _).eq_hash this

theorem thin_see_through {η τ : Type} (c : StdCfg) (PH : PayloadOps η) (PT : PayloadOps τ)
    (a b : ThinH η τ) (h : a.alloc ≠ b.alloc) (o : Observer) (ho : o ∈ Kind.thin.traits) :
    observe (thinOps c PH PT) o a b = observe (hswlOps PH (sliceOps c PT)) o a.val b.val := by
  -- only `eq` (Arc's `ptr_eq` shortcut) and the default `ne` built on it look at the allocation
  have heq : (thinOps c PH PT).eq a b = (hswlOps PH (sliceOps c PT)).eq a.val b.val := by
    show (ptrEq a b || _) = _
    rw [ptrEq, beq_false_of_ne h, Bool.false_or]
  cases o with
  | eq => exact congrArg Res.bool heq
  | ne => exact congrArg (fun e => Res.bool (!e)) heq
  | display => exact absurd ho (by decide)
  | _ => rfl

theorem consistent_thin {η τ : Type} (c : StdCfg) {PH : PayloadOps η} {PT : PayloadOps τ}
    (hH : Lawful PH) (hT : Lawful PT) (a b : ThinH η τ) (hwf : a.WF b)
    (h : a.alloc ≠ b.alloc ∨ (hswlOps PH (sliceOps c PT)).eq a.val a.val = true) :
    ConsistentAt (thinOps c PH PT) a b where
  ne_eq := rfl
  lt_pc := rfl
  le_pc := rfl
  gt_pc := rfl
  ge_pc := rfl
  eq_pc := (consistent_arc (lawful_hswl hH (lawful_slice c hT)) a b hwf h).eq_pc

theorem ordConsistent_thin {η τ : Type} (c : StdCfg) {PH : PayloadOps η} {PT : PayloadOps τ}
    (hH : LawfulOrd PH) (hT : LawfulOrd PT) (a b : ThinH η τ) (hwf : a.WF b) :
    OrdConsistentAt (thinOps c PH PT) a b where
  pc_cmp := (ordConsistent_arc (lawfulOrd_hswl hH (lawfulOrd_slice c hT)) a b hwf).pc_cmp
  eq_hash := (ordConsistent_arc (lawfulOrd_hswl hH (lawfulOrd_slice c hT)) a b hwf).eq_hash

/-! ### concrete payloads are lawful (non-vacuity) -/

theorem lawfulOrd_nat : LawfulOrd natOps :=
  ⟨consistent_usize, fun _ _ => ⟨rfl, fun h => congrArg usizeBytes (eq_of_beq h)⟩⟩

theorem lawful_flt : Lawful fltOps := fun _ _ =>
  { ne_eq := rfl, lt_pc := rfl, le_pc := rfl, gt_pc := rfl, ge_pc := rfl, eq_pc := rfl }

end Cmp
