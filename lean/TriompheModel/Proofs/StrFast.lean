/-!
# `String.toList` through the byte list

A `String` is a `ByteArray`; the kernel evaluates `String.toList` on a literal by decoding it byte by byte through nested
`push`es, which is quadratic in the length and dominates an evaluation that searches signatures for substrings.
`toListFast` reads the bytes as characters and keeps the result if it encodes to the same bytes again (every ASCII string
does); it is `String.toList` for every string (`toList_eq_fast`).  The table obligations of `Props/ApiShape.lean` rewrite
with it before they evaluate.
-/
namespace StrFast

def bytes (s : String) : List UInt8 := s.toByteArray.data.toList

def guess (s : String) : List Char := (bytes s).map fun b => Char.ofNat b.toNat

def toListFast (s : String) : List Char :=
  if (guess s).flatMap String.utf8EncodeChar = bytes s then guess s else s.toList

theorem toList_eq_fast (s : String) : s.toList = toListFast s := by
  unfold toListFast
  split
  · rename_i h
    -- a list of characters with the bytes of `s` is `s.toList`
    have e : String.ofList (guess s) = s := String.toByteArray_inj.mp <| ByteArray.ext <| by
      rw [String.toByteArray_ofList, List.utf8Encode, List.data_toByteArray, h, bytes, Array.toArray_toList]
    exact (congrArg String.toList e).symm.trans String.toList_ofList
  · rfl

end StrFast
