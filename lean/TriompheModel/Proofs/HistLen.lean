import TriompheModel.Proofs.HistLenStep
import TriompheModel.Proofs.HistInv
/-!
# Two more invariants of the sequential handle machine (M1): lengths and layouts

* `LenInv s` — every handle value in a slot views its block at the real slice length: fat pointers
  carry `elems.length`, thin pointers find it in the block's length word, sized views are only used
  on one-slot blocks.  (C10: "for every ThinArc obtainable through the safe API the stored length
  equals the real slice length".)
* `LayInv s` — whoever releases a block computes the layout it was requested with:
  `Layout::for_value` through the `Arc` view of any owning handle (`asArc`) is the block's `lay`.
* `DL m` — every `dealloc` event in the log records the layout its block was requested with; with
  `LogInv.lay` (the `alloc` event records it too) this gives `dealloc_layout_eq_alloc_layout`,
  the history clause of C05.

All three hold of `State.init` and are preserved by `step s op` for EVERY op, hence hold of `run ops` for every finite
history.  They are proved together, as `TyInvG wl wd` (`Proofs/HistLenStep.lean`; the switches turn the layout / log
clauses on); the request = release layout arithmetic comes from `Proofs/Layout.lean`.
-/
namespace M1
open LY

structure LenInv (s : State) : Prop where
  ok : ∀ (i : Nat) (h : HV), (i, h) ∈ s.slots →
        ∃ k : Block, s.mem.blocks[h.blk]? = some k ∧ LenOk h k.shape

structure LayInv (s : State) : Prop where
  lay : ∀ (i : Nat) (h : HV), (i, h) ∈ s.slots → ∀ k : Block, s.mem.blocks[h.blk]? = some k →
        (asArc s.mem h).ty.releaseLayout (viewLen s.mem (asArc s.mem h)) = k.lay

/-- under `LenInv`, `LayInv`'s clause for a slot is `LayOk` -/
theorem lay_iff_layOk {m : Mem} {h : HV} {k : Block} (hk : m.blocks[h.blk]? = some k)
    (ho : LenOk h k.shape) :
    (asArc m h).ty.releaseLayout (viewLen m (asArc m h)) = k.lay ↔ LayOk h k.shape := by
  obtain ⟨hk', hoa⟩ := asArc_ok (wl := False) ⟨ho, False.elim⟩ hk
  rw [viewLen_of_ok hk' hoa.1, asArc_ty ho]
  exact Iff.rfl

theorem TyInvG.of {wl wd : Prop} {s : State} (h1 : LenInv s) (h2 : wl → LayInv s) (h3 : wd → DL s.mem) :
    TyInvG wl wd s :=
  ⟨h3, fun e he => by
    obtain ⟨k, hk, ho⟩ := h1.ok e.1 e.2 he
    exact ⟨k, hk, ho, fun w => (lay_iff_layOk hk ho).1 ((h2 w).lay e.1 e.2 he k hk)⟩⟩

theorem LenInv.toTy {s : State} (h : LenInv s) : TyInvG False False s := .of h False.elim False.elim

theorem TyInvG.toLen {wl wd : Prop} {s : State} (h : TyInvG wl wd s) : LenInv s where
  ok := fun i hv he => by
    obtain ⟨k, hk, ho⟩ := h.hok (i, hv) he
    exact ⟨k, hk, ho.1⟩

theorem TyInvG.toLay {wd : Prop} {s : State} (h : TyInvG True wd s) : LayInv s where
  lay := fun i hv he k hk => by
    obtain ⟨k', hk', ho⟩ := h.hok (i, hv) he
    rw [hk] at hk'; cases hk'
    exact (lay_iff_layOk hk ho.1).2 (ho.2 trivial)

theorem leninv_init : LenInv State.init := (TyInvG.init (wl := False) (wd := False)).toLen
theorem layinv_init : LayInv State.init := (TyInvG.init (wl := True) (wd := False)).toLay
theorem dl_init : DL State.init.mem := fun _ _ _ h => by cases h

theorem LenInv.micro {s s' : State} (hm : Micro s s') (hi : Inv' s) (h : LenInv s) : LenInv s' :=
  (h.toTy.micro hm hi id).toLen

theorem LenInv.handIn {s s' : State} {op : Op} (hh : HandIn s op s') (h : LenInv s) : LenInv s' :=
  (h.toTy.handIn hh).toLen

theorem leninv_step (s : State) (op : Op) (hi : Inv s) (h : LenInv s) : LenInv (step s op).1 :=
  step_preserves_inv LenInv.micro LenInv.handIn hi.toInv' h op

theorem layinv_step (s : State) (op : Op) (hi : Inv s) (h1 : LenInv s) (h2 : LayInv s) :
    LayInv (step s op).1 :=
  (ty_step hi.toInv' (.of h1 (fun _ => h2) False.elim) False.elim op).toLay

theorem dl_step (s : State) (op : Op) (_hi : Inv s) (h1 : LenInv s) (h2 : LayInv s) (h3 : DL s.mem) :
    DL (step s op).1.mem :=
  (ty_step _hi.toInv' (.of h1 (fun _ => h2) (fun _ => h3)) id op).dl trivial

theorem ty_run (ops : List Op) : TyInvG True True (run ops) :=
  run_preserves_inv .init (fun hi ht => ty_step hi ht id) ops

theorem leninv_run (ops : List Op) : LenInv (run ops) := (ty_run ops).toLen
theorem layinv_run (ops : List Op) : LayInv (run ops) := (ty_run ops).toLay
theorem dl_run (ops : List Op) : DL (run ops).mem := (ty_run ops).dl trivial

theorem LenInv.viewLen_eq {s : State} (hl : LenInv s) {i : Nat} {h : HV} (hs : lookup s i = some h) :
    ∃ k : Block, s.mem.blocks[h.blk]? = some k ∧ viewLen s.mem h = k.elems.length ∧
      viewLen s.mem (asArc s.mem h) = k.elems.length := by
  obtain ⟨k, hk, ho⟩ := hl.ok i h (lookup_mem hs)
  obtain ⟨hk', hoa⟩ := asArc_ok (wl := False) ⟨ho, False.elim⟩ hk
  exact ⟨k, hk, viewLen_of_ok hk ho, viewLen_of_ok hk' hoa.1⟩

/-- [C10] for every ThinArc (or raw thin pointer) obtainable through the op language, after any
history, the length stored in the block equals the real slice length -/
theorem thin_len_correct (ops : List Op) (i : Nat) (h : HV) (hs : lookup (run ops) i = some h)
    (hk : h.kind = .thin ∨ h.kind = .rawThin) :
    ∃ k : Block, (run ops).mem.blocks[h.blk]? = some k ∧ k.recLen = some k.elems.length := by
  obtain ⟨k, hkb, ho⟩ := (leninv_run ops).ok i h (lookup_mem hs)
  exact ⟨k, hkb, (ho.thin (Kind.isThin_iff.2 hk)).2⟩

/-- … and its view type is the `HeaderWithLength` one -/
theorem thin_ty_hwl (ops : List Op) (i : Nat) (h : HV) (hs : lookup (run ops) i = some h)
    (hk : h.kind = .thin ∨ h.kind = .rawThin) : h.ty = .hwl := by
  obtain ⟨k, _, ho⟩ := (leninv_run ops).ok i h (lookup_mem hs)
  exact (ho.thin (Kind.isThin_iff.2 hk)).1

/-- every fat handle with a slice-like view carries the real slice length -/
theorem fat_len_correct (ops : List Op) (i : Nat) (h : HV) (hs : lookup (run ops) i = some h)
    (hk : h.kind ≠ .thin ∧ h.kind ≠ .rawThin) (hty : h.ty.isSlicey = true) :
    ∃ k : Block, (run ops).mem.blocks[h.blk]? = some k ∧ h.len = k.elems.length := by
  obtain ⟨k, hkb, ho⟩ := (leninv_run ops).ok i h (lookup_mem hs)
  exact ⟨k, hkb, ho.fat (Bool.eq_false_iff.2 fun ht => (Kind.isThin_iff.1 ht).elim hk.1 hk.2) hty⟩

/-- a sized view (`T`, `dyn Tr`, `MaybeUninit<T>`) is only ever held on a one-slot block -/
theorem sized_one_slot (ops : List Op) (i : Nat) (h : HV) (hs : lookup (run ops) i = some h)
    (hty : h.ty.isSlicey = false) :
    ∃ k : Block, (run ops).mem.blocks[h.blk]? = some k ∧ k.elems.length = 1 := by
  obtain ⟨k, hkb, ho⟩ := (leninv_run ops).ok i h (lookup_mem hs)
  exact ⟨k, hkb, ho.one hty⟩

/-- [C05, history clause] **every block is returned to the allocator with exactly the size and alignment it was requested
with**, whatever handle kind / conversion path releases it (`drop` of any kind, `dropAll`,
`try_unwrap` / `into_inner`, `into_thin`'s refusal, `with_arc_mut`'s implicit drop, the destroy
after a `ThinArc::from_header_and_iter` length mismatch, `unwrap_or_clone`, `make_mut`) -/
theorem dealloc_layout_eq_alloc_layout (ops : List Op) (b sz al sz' al' : Nat)
    (ha : Event.alloc b sz al ∈ (run ops).mem.log) (hd : Event.dealloc b sz' al' ∈ (run ops).mem.log) :
    sz' = sz ∧ al' = al := by
  obtain ⟨k, hk, hl⟩ := (loginv_run ops).lay b sz al ha
  obtain ⟨k', hk', hl'⟩ := dl_run ops b sz' al' hd
  cases hk.symm.trans hk'
  cases hl.symm.trans hl'
  exact ⟨rfl, rfl⟩

/-! ## non-vacuity -/

/-- a ThinArc built from a vec, cloned inside `with_arc_mut`, round-tripped through a raw pointer,
a `[T]` built uninitialised, written, `assume_init`ed and given its unit header back; a second
`into_thin` refused (stored length 9 ≠ 1: the block is destroyed on the spot) -/
def exampleLenHistory : List Op :=
  [.create 0 (.hwlFromVec ⟨1, 1⟩ 3 [⟨2, 2⟩, ⟨3, 3⟩, ⟨4, 4⟩]), .intoThin 0,
   .withCb 0 .thinWithArcMut [.cloneTo 1], .conv 1 .thinIntoRaw,
   .create 2 (.newUninitSlice 2), .writeSlot 2 0 ⟨5, 5⟩, .writeSlot 2 1 ⟨6, 6⟩,
   .conv 2 .assumeInit, .conv 2 .addHeader,
   .create 3 (.hwlFromVec ⟨7, 7⟩ 9 [⟨8, 8⟩]), .intoThin 3]

example : (lookup (run exampleLenHistory) 1).map (·.kind) = some .rawThin ∧
    (lookup (run exampleLenHistory) 2).map (·.ty) = some .uslice ∧
    lookup (run exampleLenHistory) 3 = none ∧
    (run exampleLenHistory).mem.log.length = 6 := by decide

example : (run (exampleLenHistory ++ [.dropAll])).mem.log.filter (fun e => !e.quiet) =
    [.alloc 0 48 8, .alloc 1 24 8, .alloc 2 32 8, .dealloc 2 32 8, .dealloc 0 48 8, .dealloc 1 24 8] := by
  decide

end M1
