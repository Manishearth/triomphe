import TriompheModel.Proofs.StepGraph
/-!
# What the ops are made of

`Op` has twenty constructors and `step` some sixty branches, but few different effects on the state.  An op either hands
values in (`create`, `iterCtor`, `writeSlot`: `HandIn`, five forms) or is a finite sequence of state changes that bring in
no value from outside (`Micro`, twelve forms, `Micros`).  Each form comes with the model's own expression for the new
state and the guards under which `step` takes it.  `step_change` says so for every op; an invariant is proved once per
form.  `HandIn` keeps the op, because the value invariant must know which identities it mentions (`opIds`); a `Micro`
needs none.  The forms `conv`, `clone`, `makeMut`, `makeMutOffset`, `cb` leave `runConv`, `cloneHandle`, `Arc.make_mut`,
`runCb` as they are: an invariant brings one lemma for each of these functions (and `transientOf`), by `cases` on their
graphs (`Proofs/StepGraph.lean`, `Proofs/CbStep.lean`), as `Inv'` does with `runConv_spec`, `cloneHandle_spec`, `make_mut_inv`,
`CbStep.cbp`.  In a `handIn` lemma, `| @create _ c` names the `Ctor`; `| iterBuilt _ hc => cases hc` leaves the handle
`⟨w.kind, w.ty, s.mem.blocks.length, 0, _⟩` at the appended block (`List.getElem?_concat_length`).
-/
namespace M1

inductive Micro : State → State → Prop
  | clone {s : State} {dst src : Nat} {h c : HV} {m : Mem} :
      lookup s dst = none → lookup s src = some h → cloneHandle s.mem h = some (m, c) → Micro s (s.put m dst c)
  /-- `clone_arc` through a borrow: a new `Arc` on the block of `h` -/
  | cloneArc {s : State} {dst src : Nat} {h : HV} :
      lookup s dst = none → lookup s src = some h →
      lendsArc h →
      Micro s (s.put (incr s.mem h.blk) dst (asArc s.mem h))
  | release {s : State} {src : Nat} {h : HV} :
      lookup s src = some h → Micro s (s.del (Arc.drop s.mem (asArc s.mem h)) src)
  | conv {s : State} {src : Nat} {h h' : HV} {c : Conv} :
      lookup s src = some h → runConv s.mem h c = some h' → Micro s (s.set s.mem src h')
  | intoThin {s : State} {src : Nat} {h : HV} :
      lookup s src = some h → h.kind = .arc → h.ty = .hwl →
      ((s.mem.blocks[h.blk]?.bind (·.recLen))).getD 0 = h.len → Micro s (s.set s.mem src (ThinArc.of_arc h))
  | tryUnique {s : State} {src : Nat} {h : HV} :
      lookup s src = some h → h.kind = .arc → Arc.is_unique s.mem h = true →
      Micro s (s.set s.mem src { h with kind := .uniq })
  | write {s : State} (b v : Nat) : Micro s ⟨writeVal s.mem b v, s.slots⟩
  /-- `into_inner`, by a `UniqueArc` or by an `Arc` that passed the gate -/
  | moveOut {s : State} {src : Nat} {h : HV} :
      lookup s src = some h → h.ty = .sized → (h.kind = .uniq ∨ h.kind = .arc ∧ Arc.is_unique s.mem h = true) →
      Micro s (s.del (UniqueArc.into_inner s.mem { h with kind := .uniq }).1 src)
  | cloneVal {s : State} (b : Nat) : Micro s ⟨(cloneValue s.mem b).1, s.slots⟩
  | makeMut {s : State} {src : Nat} {h h' : HV} {cp : Bool} {m : Mem} :
      lookup s src = some h → h.kind = .arc → h.ty = .sized → Arc.make_mut s.mem h cp = (m, some h') →
      Micro s (s.set m src h')
  | makeMutOffset {s : State} {src : Nat} {h a' : HV} {cp : Bool} {m : Mem} :
      lookup s src = some h → h.kind = .offset → Arc.make_mut s.mem (Arc.from_raw_offset s.mem h) cp = (m, some a') →
      Micro s (s.set m src (Arc.into_raw_offset m a'))
  | cb {s : State} {src : Nat} {h t : HV} {api : CbApi} (script : List CbAct) (acc : String) :
      lookup s src = some h → transientOf s.mem api h = some t → Micro s (runCb api src script s t acc).1

inductive HandIn (s : State) : Op → State → Prop
  | create {dst : Nat} {c : Ctor} {lay : LY.Layout} :
      lookup s dst = none → c.lay? = some lay →
      HandIn s (.create dst c) (s.put (allocBlock s.mem lay c.hdr c.recLen c.elems).1 dst (c.handle s.mem.blocks.length))
  | iterBuilt {dst : Nat} {w : IterCtor} {hd : Option Item} {sc : IterScript} {m : Mem} {h : HV} :
      lookup s dst = none → IterOut s.mem w hd sc (.built m h) → HandIn s (.iterCtor dst w hd sc) (s.put m dst h)
  | iterPanicked {dst : Nat} {w : IterCtor} {hd : Option Item} {sc : IterScript} {m : Mem} {cls : String} :
      IterOut s.mem w hd sc (.panicked m cls) → HandIn s (.iterCtor dst w hd sc) ⟨m, s.slots⟩
  | writeSlot {src i : Nat} {v : Item} {h : HV} :
      lookup s src = some h → (h.ty = .mu ∨ h.ty = .muSlice ∨ h.ty = .hsMu) → i < viewLen s.mem h →
      HandIn s (.writeSlot src i v) ⟨s.mem.upd h.blk fun k => { k with elems := k.elems.set i (some v) }, s.slots⟩
  /-- the argument of a refused `Arc::write` is dropped by unwinding -/
  | writeRefused {src i : Nat} {v : Item} : HandIn s (.writeSlot src i v) ⟨s.mem.emit [.drop v.id], s.slots⟩

inductive Micros : State → State → Prop
  | refl (s : State) : Micros s s
  | tail {s s' s'' : State} : Micros s s' → Micro s' s'' → Micros s s''

theorem Micros.one {s s' : State} (h : Micro s s') : Micros s s' := .tail (.refl s) h

theorem Micros.preserves {P : State → Prop} (hP : ∀ {s s'}, Micro s s' → P s → P s') {s s' : State}
    (h : Micros s s') (hs : P s) : P s' := by
  induction h with
  | refl => exact hs
  | tail _ h1 ih => exact hP h1 ih

theorem releaseSlot_micros (s : State) (i : Nat) : Micros s (releaseSlot s i) := by
  unfold releaseSlot
  split
  · rename_i h hs; exact .one (.release hs)
  · exact .refl s

theorem Micros.trans {s s' s'' : State} (h1 : Micros s s') (h2 : Micros s' s'') : Micros s s'' := by
  induction h2 with
  | refl => exact h1
  | tail _ hm ih => exact .tail ih hm

theorem dropAllFrom_micros (keys : List Nat) : ∀ s : State, Micros s (dropAllFrom keys s) := by
  induction keys with
  | nil => exact .refl
  | cons k r ih => exact fun s => (releaseSlot_micros s k).trans (ih _)

theorem Step.change {s : State} {op : Op} {r : State × Out} (h : Step s op r) : Micros s r.1 ∨ HandIn s op r.1 := by
  have rel : ∀ {src : Nat} {h : HV} (m : Mem), lookup s src = some h → h.kind = .arc →
      Micro ⟨m, s.slots⟩ (s.del (Arc.drop m h) src) := fun m hs hk => by
    have := Micro.release (s := ⟨m, s.slots⟩) hs
    rwa [asArc_arc hk] at this
  cases h with
  | bad | createOverflow | isUnique | getMutNone | getUniqueNone | makeMutPanic | makeUniquePanic | tryUnwrapErr
  | tryUniqueErr => exact .inl (.refl s)
  | create hd hc => exact .inr (.create hd hc)
  | iterBuilt hd hc => exact .inr (.iterBuilt hd hc)
  | iterPanicked _ hc => exact .inr (.iterPanicked hc)
  | clone hd hs hc => exact .inl (.one (.clone hd hs hc))
  | drop hs hd => rw [dropHandle_eq hd]; exact .inl (.one (.release hs))
  | conv hs hc => exact .inl (.one (.conv hs hc))
  | intoThin hs hc hr => exact .inl (.one (.intoThin hs hc.1 hc.2 hr))
  | intoThinRefused hs hc _ | unwrapOrClonePanic hs hc _ => exact .inl (.one (rel _ hs hc.1))
  | cloneArc hd hs hk => exact .inl (.one (.cloneArc hd hs hk))
  | getMutSome | getUniqueSome | uniqWrite => exact .inl (.one (.write ..))
  | makeMut hs hc hm | makeUnique hs hc hm => exact .inl (.tail (.one (.makeMut hs hc.1 hc.2 hm)) (.write ..))
  | makeMutOffset hs hc hm => exact .inl (.tail (.one (.makeMutOffset hs hc hm)) (.write ..))
  | tryUnwrapOk hs hc hu | unwrapOrCloneSole hs hc hu => exact .inl (.one (.moveOut hs hc.2 (.inr ⟨hc.1, hu⟩)))
  | unwrapOrCloneShared hs hc _ => exact .inl (.tail (.one (.cloneVal _)) (rel _ hs hc.1))
  | intoInner hs hc =>
    have := Micro.moveOut hs hc.2 (.inl hc.1)
    rw [kind_eta hc.1] at this
    exact .inl (.one this)
  | tryUniqueOk hs hc hu => exact .inl (.one (.tryUnique hs hc.1 hu))
  | writeSlot hs hc _ => exact .inr (.writeSlot hs hc.1 hc.2.1)
  | writeSlotRefused =>
    show _ ∨ HandIn s _ ⟨_, s.slots⟩
    split
    · exact .inr .writeRefused
    · exact .inl (.refl s)
  | withCb hs ht => exact .inl (.one (.cb _ _ hs ht))
  | dropAll => exact .inl (dropAllFrom_micros _ s)

theorem step_change (s : State) (op : Op) : Micros s (step s op).1 ∨ HandIn s op (step s op).1 :=
  (step_graph s op).change

theorem step_preserves {P : State → Prop} (hm : ∀ {s s'}, Micro s s' → P s → P s')
    (hh : ∀ {s op s'}, HandIn s op s' → P s → P s') {s : State} (hs : P s) (op : Op) : P (step s op).1 :=
  (step_change s op).elim (fun h => h.preserves hm hs) (fun h => hh h hs)

theorem steps_preserve {P : State → Prop} (hs : ∀ s op, P s → P (step s op).1) (ops : List Op) :
    ∀ s, P s → P (ops.foldl (fun s o => (step s o).1) s) := by
  induction ops with
  | nil => exact fun _ h => h
  | cons o r ih => exact fun s h => ih _ (hs s o h)

theorem run_snoc (pre : List Op) (op : Op) : run (pre ++ [op]) = (step (run pre) op).1 := by
  simp [run, List.foldl_append]

theorem run_preserves {P : State → Prop} (h0 : P State.init) (hs : ∀ s op, P s → P (step s op).1) (ops : List Op) :
    P (run ops) := steps_preserve hs ops _ h0

end M1
