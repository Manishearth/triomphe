import TriompheModel.Model.Monitor
import TriompheModel.Proofs.HistInv
import TriompheModel.Proofs.HistCow
/-!
# The model's observations

What the monitor's checks are proved about: the probe `observeSlots s` of a model state and the observation
`observe s op` of an op, read off an equation `step s op = …` as the `Step` graph gives it (`observe_of`, `observe_quiet`,
`observe_bad`, `observe_into_inner`); the status and verdict strings of `step`'s outputs.
-/
namespace M1
namespace Mon

theorem isPanic_panicked (cls o : String) : isPanicStatus (panicked cls o).status = true := by
  simp [isPanicStatus, hasPrefix, panicked, String.toList_append]

theorem isPanic_ok (o : String) : isPanicStatus (ok o).status = false := by
  simp only [ok]; decide

theorem isPanic_badOp : isPanicStatus badOp.status = false := by decide
theorem isBadOp_badOp : isBadOpStatus badOp.status = true := by decide
theorem isBadOp_ok (o : String) : isBadOpStatus (ok o).status = false := by
  simp only [ok]; decide

theorem isBadOp_panicked (cls o : String) : isBadOpStatus (panicked cls o).status = false := by
  cases hb : isBadOpStatus (panicked cls o).status with
  | false => rfl
  | true =>
    -- a status cannot be `bad-op` and start with `panic`
    have hp := isPanic_panicked cls o
    rw [beq_iff_eq.1 hb] at hp
    exact absurd hp (by decide)

@[simp] theorem ok_out (x : String) : (ok x).out = x := rfl

theorem verdict_isUnique (src : Nat) (b : Bool) :
    verdictOf (.isUnique src) (ok s!"unique={b}") = some b := by
  cases b <;> rfl

theorem verdict_getMut (s v : Nat) :
    verdictOf (.getMut s v) (ok "some") = some true ∧ verdictOf (.getMut s v) (ok "none") = some false :=
  ⟨rfl, rfl⟩

theorem verdict_getUnique (s v : Nat) :
    verdictOf (.getUnique s v) (ok "some") = some true ∧ verdictOf (.getUnique s v) (ok "none") = some false :=
  ⟨rfl, rfl⟩

theorem verdict_tryUnique (src : Nat) :
    verdictOf (.tryUnique src) (ok "ok") = some true ∧ verdictOf (.tryUnique src) (ok "err") = some false :=
  ⟨rfl, rfl⟩

theorem verdict_tryUnwrap_ok (src : Nat) (x : String) :
    verdictOf (.tryUnwrap src) (ok s!"ok={x}") = some true := by
  simp [verdictOf, verdictOfOut, ok, hasPrefix, String.toList_append, toString]

theorem valShown_val (v : Option Item) : valShown s!"val={showItem v}" = v.isSome := by
  cases v with
  | none => decide
  | some it =>
    simp [valShown, showItem, String.toList_append, toString]
    intro h
    cases hr : Nat.toDigits 10 it.id with
    | nil => rw [hr] at h; simp at h
    | cons c cs => rw [hr] at h; simp at h

theorem verdict_tryUnwrap_err (src : Nat) : verdictOf (.tryUnwrap src) (ok "err") = some false := rfl

theorem ownersO_observe (s : State) (b : Nat) : ownersO (observeSlots s) b = owners s b := by
  simp only [ownersO, observeSlots, owners, List.countP_map]
  rfl

theorem lookupO_observe (s : State) (i : Nat) : lookupO (observeSlots s) i = (lookup s i).map (slotObs s.mem) := by
  simp only [lookupO, observeSlots, lookup, List.find?_map, Option.map_map]
  rfl

theorem lookupO_pre {s : State} {src : Nat} {h : HV} (hs : lookup s src = some h) :
    lookupO (observeSlots s) src = some (slotObs s.mem h) := by
  rw [lookupO_observe, hs]; rfl

@[simp] theorem slotObs_blk (m : Mem) (h : HV) : (slotObs m h).blk = h.blk := rfl

theorem mem_observe {s : State} {e : Nat × SlotObs} (he : e ∈ observeSlots s) :
    ∃ h : HV, (e.1, h) ∈ s.slots ∧ e.2 = slotObs s.mem h := by
  simp only [observeSlots, List.mem_map] at he
  obtain ⟨⟨i, h⟩, hm, rfl⟩ := he
  exact ⟨h, hm, rfl⟩

theorem obsCnt_eq_some {m : Mem} {h : HV} {c : Nat} (hc : obsCnt m h = some c) : c = loadCount m h.blk := by
  unfold obsCnt at hc
  split at hc <;> cases hc
  rfl

theorem observe_eq {s s' : State} {op : Op} {out : Out} (e : step s op = (s', out)) :
    observe s op = ⟨isPanicStatus out.status, isBadOpStatus out.status, verdictOf op out, valShown out.out,
      s'.mem.log.drop s.mem.log.length, observeSlots s', cbToksFor s op⟩ := by
  simp only [observe, e]

theorem observe_of {s s' : State} {op : Op} {out : Out} {es : List Event} (e : step s op = (s', out))
    (hlog : s'.mem.log = s.mem.log ++ es) :
    observe s op = ⟨isPanicStatus out.status, isBadOpStatus out.status, verdictOf op out, valShown out.out,
      es, observeSlots s', cbToksFor s op⟩ := by
  rw [observe_eq e, hlog, List.drop_left]

theorem observe_quiet {s s' : State} {op : Op} {out : Out} (e : step s op = (s', out)) (h : s'.mem.log = s.mem.log) :
    observe s op = ⟨isPanicStatus out.status, isBadOpStatus out.status, verdictOf op out, valShown out.out,
      [], observeSlots s', cbToksFor s op⟩ :=
  observe_of e (by rw [h, List.append_nil])

theorem observe_bad {s : State} {op : Op} (e : step s op = (s, badOp)) :
    observe s op = ⟨false, true, verdictOf op badOp, valShown badOp.out, [], observeSlots s, cbToksFor s op⟩ := by
  rw [observe_quiet e rfl, isPanic_badOp, isBadOp_badOp]

def digOf (c : Option (Option Item × Option Nat × List (Option Item))) (ei : Bool) (n : Nat) : Option Dig :=
  c.map fun c => ⟨c.1, if ei then some (c.2.2.take n) else none⟩

theorem digObs_eq (m : Mem) (h : HV) : digObs m h = digOf (cont m h.blk) h.ty.elemsInit (viewLen m h) := by
  unfold digObs digOf cont
  cases m.blocks[h.blk]? <;> rfl

theorem digObs_congr {m m' : Mem} {h : HV} (hc : cont m' h.blk = cont m h.blk) : digObs m' h = digObs m h := by
  rw [digObs_eq, digObs_eq, hc, viewLen_congr hc]

theorem lookupO_set_self {s : State} {src : Nat} {h : HV} (hs : lookup s src = some h) (m : Mem) (h' : HV) :
    lookupO (observeSlots (s.set m src h')) src = some (slotObs m h') :=
  lookupO_pre (lookup_set_self hs m h')

theorem observe_into_inner {s : State} (hi : Inv s) {src : Nat} {h u : HV} (hl : lookup s src = some h) {op : Op}
    {x : String} (e : step s op = (s.del (UniqueArc.into_inner s.mem u).1 src, ok x)) (hb : u.blk = h.blk) :
    ∃ sz al, observe s op = ⟨false, false, verdictOf op (ok x), valShown x, [Event.dealloc h.blk sz al],
      observeSlots (s.del (UniqueArc.into_inner s.mem u).1 src), cbToksFor s op⟩ := by
  obtain ⟨k, hkb, _⟩ := slot_block hi hl
  have hlog := into_inner_log s.mem u
  rw [hb, hkb] at hlog
  exact ⟨_, _, by rw [observe_of e hlog, isPanic_ok, isBadOp_ok]; rfl⟩

theorem observe_evs {s : State} {op : Op} {es : List Event} (h : (step s op).1.mem.log = s.mem.log ++ es) :
    (observe s op).evs = es := by
  simp only [observe, h, List.drop_left]

theorem sole_owner {s : State} (hi : Inv s) {src : Nat} {h : HV} (hl : lookup s src = some h) :
    Arc.is_unique s.mem h = (ownersO (observeSlots s) (slotObs s.mem h).blk == 1) := by
  rw [ownersO_observe]; exact is_unique_owners (count_eq_owners hi hl).1

theorem probe_cnt {s : State} (hi : Inv s) {e : Nat × SlotObs} (he : e ∈ observeSlots s) {n : Nat}
    (hc : e.2.cnt = some n) : n = owners s e.2.blk := by
  obtain ⟨h, hm, he2⟩ := mem_observe he
  rw [he2] at hc ⊢
  exact (obsCnt_eq_some hc).trans (count_eq_owners hi (mem_lookupL hi.keys hm)).1

end Mon
end M1
