import TriompheModel.Proofs.HistOffBase
import TriompheModel.Proofs.HistLenMem
import TriompheModel.Proofs.SlotLaw
/-!
# Every op keeps the stored addresses right; blocks never change shape

`OffAll s`: the handle in every slot satisfies `OffOk`; it owes `offLaw` (the laws of `Proofs/SlotLaw.lean`, citing the
lemmas of `Proofs/HistOffBase.lean`) and `OffAll.handIn`.  `step_stable`: an existing block has the same shape after any op
(`Stable m0`, `Proofs/HistLenMem.lean`, as an invariant of memory alone: `Stable.law`, `Stable.handIn`).
-/
namespace M1

def OffAll (s : State) : Prop := AllSlots OffOk s.slots

theorem ctor_handle_off (c : Ctor) (b : Nat) : OffOk (c.handle b) := by
  cases c <;> exact OffOk.of_blk rfl rfl

theorem iter_handle_off (w : IterCtor) (b l : Nat) : OffOk ⟨w.kind, w.ty, b, 0, l⟩ := by
  cases w <;> exact OffOk.of_blk rfl rfl

/-- `OffOk` does not look at the memory -/
theorem offLaw : SlotLaw (fun _ => True) fun _ => OffOk where
  mIncr := fun _ => ⟨id, fun _ => id⟩
  mDrop := fun _ _ => ⟨id, fun _ => id⟩
  mWrite := fun _ _ _ => ⟨id, fun _ => id⟩
  mCloneVal := fun _ _ => ⟨id, fun _ => id⟩
  mMoveOut := fun _ _ => ⟨id, fun _ => id⟩
  mCloneNew := fun _ _ => ⟨⟨id, fun _ => id⟩, OffOk.of_blk rfl rfl⟩
  qClone := cloneHandle_off
  qAsArc := OffOk.asArc
  qConv := runConv_off
  qIntoThin := fun hk _ _ ho => ho.blkBlk (by rw [hk]; rfl) rfl rfl
  qUniq := fun ho hk => ho.blkBlk (isBlockAddr_iff.2 (hk.imp_right .inl)) rfl rfl
  qOffBack := fun _ _ hf hk _ => hf.toData hk rfl rfl rfl

namespace OffAll

theorem micro {s s' : State} (hm : Micro s s') (hi : Inv' s) (ha : OffAll s) : OffAll s' :=
  (offLaw.micro hm hi ⟨trivial, ha⟩).2

theorem handIn {s s' : State} {op : Op} (hh : HandIn s op s') (ha : OffAll s) : OffAll s' := by
  cases hh with
  | create => exact ha.cons _ (ctor_handle_off ..)
  | iterBuilt _ hc => cases hc; exact ha.cons _ (iter_handle_off ..)
  | iterPanicked | writeSlot | writeRefused => exact ha

end OffAll

theorem off_step {s : State} (hi : Inv' s) (ha : OffAll s) (op : Op) : OffAll (step s op).1 :=
  step_preserves_inv OffAll.micro OffAll.handIn hi ha op

namespace Stable

/-- what extends memory (`Ext`, its log clause switched off) keeps the shapes -/
theorem law (m0 : Mem) : SlotLaw (Stable m0) fun _ _ => True :=
  have st {m m' : Mem} (he : Ext False m m') (hp : Stable m0 m) : Stable m0 m' := hp.trans he.st
  .ofMem (fun _ => st (Ext.incr ..)) (fun _ => st (Ext.arc_drop _ _ False.elim)) (fun _ _ _ => st (Ext.writeVal ..))
    (fun _ _ => st (Ext.cloneValue ..)) (fun _ => st (Ext.into_inner _ _ False.elim))
    fun _ _ _ => st ((Ext.cloneValue ..).trans (Ext.alloc ..))

theorem handIn {s s' : State} {op : Op} (hh : HandIn s op s') : Stable s.mem s'.mem := (hh.ext (wd := False)).st

end Stable

theorem step_stable {s : State} (hi : Inv' s) (op : Op) : Stable s.mem (step s op).1.mem :=
  (step_change s op).elim (fun h => ((Stable.law s.mem).micros h hi ⟨Stable.refl _, fun _ _ => trivial⟩).1) Stable.handIn

end M1
