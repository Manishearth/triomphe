import TriompheModel.Proofs.MonitorBase
/-!
# K11 (C06, constructors) and K15 (C06, honest iterators) on the model's observations

The constructors `create` and `iterBuilt` of `Step` carry the closed forms of `runCtor` and `runIterCtor`: a
constructor op that does not panic appends ONE block, holding exactly the header and the values handed in, logs one
`alloc` event for it, and puts a handle on it into the empty slot `dst` (`K11_put`).  K15: a script that is honest in
the monitor's sense (`honestScript`) falls, whichever `size_hint` regime it is in, under one of `runIterCtor_lens`,
`runIterCtor_honest`, `runIterCtor_inexact` (`Proofs/Ctor.lean`), so it is built (`runIterCtor_honestScript`).
-/
namespace M1
namespace Mon
open LY

theorem k11_none {pre : List (Nat × SlotObs)} {op : Op} {o : Obs} (h : ctorSpec op = none) : checkK11 pre op o = [] := by
  unfold checkK11; rw [h]

theorem k11_skip {pre : List (Nat × SlotObs)} {op : Op} {o : Obs} (h : o.badOp = true ∨ o.panicked = true) :
    checkK11 pre op o = [] := by
  unfold checkK11
  split
  · rfl
  · rcases h with h | h <;> simp [h]

theorem K11_put {s : State} (hi : Inv s) {op : Op} {dst : Nat} (hd : lookup s dst = none) {d : Dig} {ids : List Nat}
    (hop : ctorSpec op = some (dst, d, ids)) {m' : Mem} {k : Block} {hv : HV} {sz a : Nat}
    (hstep : step s op = (s.put m' dst hv, ok)) (hbl : m'.blocks = s.mem.blocks ++ [k])
    (hlog : m'.log = s.mem.log ++ [.alloc s.mem.blocks.length sz a]) (hk1 : k.count = 1)
    (hb : hv.blk = s.mem.blocks.length) (hdig : digObs m' hv = some d) :
    checkK11 (observeSlots s) op (observe s op) = [] := by
  have hq : lookupO (observeSlots (s.put m' dst hv)) dst = some (slotObs m' hv) := lookupO_pre lookupL_cons_self
  have hc : (obsCnt m' hv).all (· == 1) = true := by
    cases hc : obsCnt m' hv with
    | none => rfl
    | some c => rw [obsCnt_eq_some hc, hb]; simp [loadCount, hbl, hk1]
  have h0 := owners_fresh hi
  have h1 : owners (s.put m' dst hv) s.mem.blocks.length = 1 := by
    rw [owners_eq, put_slots, ownersL_cons, ← owners_eq, h0, if_pos hb]
  have hpre : lookupO (observeSlots s) dst = none := by rw [lookupO_observe, hd]; rfl
  rw [observe_of hstep hlog]
  simp [checkK11, hop, hpre, isBadOp_ok, isPanic_ok, hq, hc, h1, h0, hdig, ownersO_observe, slotObs, isDropOf,
    isAllocEv, isAllocOf, hb]

theorem digObs_new (bs : List Block) (log : List Event) (nc : Nat) (k : Block) (hv : HV) (hb : hv.blk = bs.length) :
    digObs ⟨bs ++ [k], log, nc⟩ hv =
      some ⟨k.hdr, if hv.ty.elemsInit then some (k.elems.take (viewLen ⟨bs ++ [k], log, nc⟩ hv)) else none⟩ := by
  unfold digObs
  simp [hb]

theorem take_map_some (vs : List Item) : (vs.map some).take vs.length = vs.map some :=
  List.take_of_length_le (by simp)

theorem ctor_dig (c : Ctor) (bs : List Block) (log : List Event) (nc : Nat) (cnt : Nat) (lv : Bool) (lay : Layout)
    (lk : Bool) :
    digObs ⟨bs ++ [⟨cnt, lv, lay, c.hdr, c.recLen, c.elems, lk⟩], log, nc⟩ (c.handle bs.length) = some (ctorDig c) := by
  rw [digObs_new _ _ _ _ _ (Ctor.handle_blk c _)]
  cases c <;>
    simp [Ctor.handle, Ctor.hdr, Ctor.elems, Ctor.takesValues, Ctor.vals, ctorDig, Ty.elemsInit, viewLen,
      Ty.isSlicey, take_map_some]

theorem iter_dig (w : IterCtor) (h : Option Item) (items : List Item) (bs : List Block) (log : List Event) (nc : Nat)
    (cnt : Nat) (lv : Bool) (lay : Layout) (lk : Bool) :
    digObs ⟨bs ++ [⟨cnt, lv, lay, w.hdrOf h, w.recOf items.length, items.map some, lk⟩], log, nc⟩
      ⟨w.kind, w.ty, bs.length, 0, w.lenOf items.length⟩ = some ⟨iterHdr w h, some (items.map some)⟩ := by
  rw [digObs_new _ _ _ _ _ rfl]
  cases w <;>
    simp [IterCtor.hdrOf, IterCtor.recOf, IterCtor.kind, IterCtor.ty, IterCtor.lenOf, iterHdr, Ty.elemsInit, viewLen,
      Ty.isSlicey, take_map_some]

theorem K11_sound {s : State} (hi : Inv s) (op : Op) : checkK11 (observeSlots s) op (observe s op) = [] := by
  obtain ⟨r, e, hr⟩ := step_cases s op
  cases hr with
  | bad => exact k11_skip (.inl (by rw [observe_bad e]))
  | createOverflow | iterPanicked => exact k11_skip (.inr (by rw [observe_eq e]; exact isPanic_panicked _ _))
  | create hd => exact K11_put hi hd rfl e rfl rfl rfl (Ctor.handle_blk ..) (ctor_dig ..)
  | iterBuilt hd hr =>
    cases hr with
    | built => exact K11_put hi hd rfl e rfl rfl rfl rfl (iter_dig ..)
  | _ => exact k11_none rfl

theorem checkK11_withEvs (pre : List (Nat × SlotObs)) (op : Op) (o : Obs) (evs' : List Event)
    (h : evs'.Perm o.evs) : checkK11 pre op (o.withEvs evs') = checkK11 pre op o := by
  unfold checkK11 Obs.withEvs
  simp only [h.countP_eq]

theorem iterHdrLay_eq (w : IterCtor) : iterHdrLay w = w.hdrLay := by cases w <;> rfl

theorem runIterCtor_honestScript (m : Mem) (dbg : Bool) (which : IterCtor) (h : Option Item) (sc : IterScript)
    (hh : honestScript sc = true) (lay : Layout)
    (hal : allocLayoutHeaderSlice bits which.hdrLay trackedLay sc.items.length = some lay) :
    runIterCtor m dbg which h sc = which.builtRes m h sc.items lay := by
  simp only [honestScript, Bool.and_eq_true, Option.isNone_iff_eq_none, List.all_eq_true, beq_iff_eq] at hh
  obtain ⟨⟨hp, hl⟩, hhint⟩ := hh
  cases which with
  | hsFromIter => exact runIterCtor_lens m dbg _ (Or.inl rfl) h sc hl hp lay hal
  | thinFromIter => exact runIterCtor_lens m dbg _ (Or.inr rfl) h sc hl hp lay hal
  | fromIter | uniqueFromIter =>
    cases hhs : sc.hints with
    | nil => exact runIterCtor_honest m dbg _ h sc ⟨hl, (by rw [hhs]; intro x hx; cases hx), hp⟩ lay hal
    | cons x r =>
      rw [hhs] at hhint
      simp only [Bool.and_eq_true, List.all_eq_true, beq_iff_eq, decide_eq_true_eq] at hhint
      obtain ⟨⟨hr, hlo⟩, hup⟩ := hhint
      obtain ⟨lo, up⟩ := x
      by_cases hex : some lo = up
      · subst hex
        simp only [decide_eq_true_eq] at hup
        have : lo = sc.items.length := Nat.le_antisymm hlo hup
        subst this
        refine runIterCtor_honest m dbg _ h sc ⟨hl, ?_, hp⟩ lay hal
        intro y hy
        rw [hhs] at hy
        rcases List.mem_cons.1 hy with rfl | hy
        · rfl
        · exact hr y hy
      · exact runIterCtor_inexact m dbg _ (by simp) h sc lo up r hhs hex hp lay hal

theorem K15_sound (s : State) (op : Op) : checkK15 (observeSlots s) op (observe s op) = [] := by
  cases op with
  | iterCtor dst w h sc =>
    simp only [checkK15]
    split
    · rfl
    · rw [lookupO_observe]
      cases hd : lookup s dst with
      | some x => rfl
      | none =>
        simp only [Option.map_none]
        split
        · rename_i hc
          simp only [Bool.and_eq_true, Option.isSome_iff_exists] at hc
          obtain ⟨⟨hh, hpan⟩, lay, hal⟩ := hc
          have hr := runIterCtor_honestScript s.mem true w h sc hh lay (by rw [← iterHdrLay_eq]; exact hal)
          -- the graph does not help: `Step.iterPanicked` carries the loose `IterOut`, not the value of `runIterCtor`
          have : (observe s (.iterCtor dst w h sc)).panicked = false := by
            show isPanicStatus (step s (.iterCtor dst w h sc)).2.status = false
            simp only [step, hd, hr, IterCtor.builtRes]
            exact isPanic_ok _
          rw [this] at hpan
          cases hpan
        · rfl
  | _ => rfl

theorem checkK15_withEvs (pre : List (Nat × SlotObs)) (op : Op) (o : Obs) (evs' : List Event) :
    checkK15 pre op (o.withEvs evs') = checkK15 pre op o := rfl

end Mon
end M1
