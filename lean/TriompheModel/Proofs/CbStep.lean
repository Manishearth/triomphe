import TriompheModel.Model.Monitor
/-!
# One action of a callback script

`runCb` (the interpreter) and `Mon.cbToksOf` (the tokens it prints, `Model/Monitor.lean`) are the same recursion over the
script.  `CbStep` is the graph of one action: new state, new transient, token, printed piece; `runCb_cons` says both
recursions take one `CbStep` at a time.  No other proof tells the actions apart (the ends of a script, `[]` and `panic`,
and forward equations under given guards compute).
-/
namespace M1

inductive CbStep (api : CbApi) (src : Nat) (s : State) (t : HV) : CbAct → State → HV → Mon.CbTok → String → Prop
  | cnt : CbStep api src s t .cnt s t (.cnt (loadCount s.mem t.blk)) s!"cnt={loadCount s.mem t.blk};"
  | read : CbStep api src s t .read s t .val s!"val={digest s.mem t};"
  | skip {a : CbAct} : CbStep api src s t a s t .skip "skip;"
  | cloned {k : Nat} {m : Mem} {c : HV} : lookup s k = none → cloneHandle s.mem t = some (m, c) →
      CbStep api src s t (.cloneTo k) (s.put m k (if api = .thinWithArcMut then ThinArc.of_arc c else c)) t .cloned "cloned;"
  | clonedArc {k : Nat} : lookup s k = none → api = .rawOffset →
      CbStep api src s t (.cloneArcTo k) (s.put (OffsetArc.clone_arc s.mem t).1 k (OffsetArc.clone_arc s.mem t).2) t
        .cloned "cloned;"
  | mutSome {v : Nat} : api = .thinWithArcMut → Arc.is_unique s.mem t = true →
      CbStep api src s t (.getMutWrite v) ⟨writeVal s.mem t.blk v, s.slots⟩ t .mutSome "mut=some;"
  | mutNone {v : Nat} : api = .thinWithArcMut → Arc.is_unique s.mem t = false →
      CbStep api src s t (.getMutWrite v) s t .mutNone "mut=none;"
  | replaced {k : Nat} {h2 : HV} : api = .thinWithArcMut → k ≠ src → lookup s k = some h2 → h2.kind = .thin →
      CbStep api src s t (.replaceWith k)
        ((s.del (Arc.drop s.mem t) k).set (Arc.drop s.mem t) src (ThinArc.of_arc (ThinArc.thick s.mem h2)))
        (ThinArc.thick s.mem h2) .replaced "replaced;"
  | swapped {k : Nat} {h2 : HV} : api = .thinWithArcMut → k ≠ src → lookup s k = some h2 → h2.kind = .thin →
      CbStep api src s t (.swapWith k)
        ((s.set s.mem k (ThinArc.of_arc t)).set s.mem src (ThinArc.of_arc (ThinArc.thick s.mem h2)))
        (ThinArc.thick s.mem h2) .swapped "swapped;"

theorem runCb_cons (api : CbApi) (src : Nat) (a : CbAct) (s : State) (t : HV) (ha : a ≠ .panic) :
    ∃ s' t' tk piece, CbStep api src s t a s' t' tk piece ∧
      ∀ rest, Mon.cbToksOf api src (a :: rest) s t = tk :: Mon.cbToksOf api src rest s' t' ∧
        ∀ acc, runCb api src (a :: rest) s t acc = runCb api src rest s' t' (acc ++ piece) := by
  cases a with
  | panic => exact (ha rfl).elim
  | cnt => exact ⟨_, _, _, _, .cnt, fun _ => ⟨rfl, fun _ => rfl⟩⟩
  | read => exact ⟨_, _, _, _, .read, fun _ => ⟨rfl, fun _ => rfl⟩⟩
  | cloneTo k =>
    cases hk : lookup s k with
    | some x => exact ⟨_, _, _, _, .skip, fun _ => ⟨by simp only [Mon.cbToksOf, hk], fun _ => by simp only [runCb, hk]⟩⟩
    | none =>
      cases hc : cloneHandle s.mem t with
      | none => exact ⟨_, _, _, _, .skip, fun _ => ⟨by simp only [Mon.cbToksOf, hk, hc], fun _ => by simp only [runCb, hk, hc]⟩⟩
      | some mc =>
        exact ⟨_, _, _, _, .cloned hk hc, fun _ => ⟨by simp only [Mon.cbToksOf, hk, hc], fun _ => by simp only [runCb, hk, hc]⟩⟩
  | cloneArcTo k =>
    cases hk : lookup s k with
    | some x => exact ⟨_, _, _, _, .skip, fun _ => ⟨by simp only [Mon.cbToksOf, hk], fun _ => by simp only [runCb, hk]⟩⟩
    | none =>
      by_cases hr : api = .rawOffset
      · exact ⟨_, _, _, _, .clonedArc hk hr, fun _ =>
          ⟨by simp only [Mon.cbToksOf, hk, if_pos hr], fun _ => by simp only [runCb, hk, if_pos hr]⟩⟩
      · exact ⟨_, _, _, _, .skip, fun _ =>
          ⟨by simp only [Mon.cbToksOf, hk, if_neg hr], fun _ => by simp only [runCb, hk, if_neg hr]⟩⟩
  | getMutWrite v =>
    by_cases hm : api = .thinWithArcMut
    · cases hu : Arc.is_unique s.mem t with
      | true => exact ⟨_, _, _, _, .mutSome hm hu, fun _ =>
          ⟨by simp only [Mon.cbToksOf, if_pos hm, hu, if_true], fun _ => by simp only [runCb, if_pos hm, hu, if_true]⟩⟩
      | false => exact ⟨_, _, _, _, .mutNone hm hu, fun _ =>
          ⟨by simp only [Mon.cbToksOf, if_pos hm, hu, Bool.false_eq_true, if_false],
           fun _ => by simp only [runCb, if_pos hm, hu, Bool.false_eq_true, if_false]⟩⟩
    · exact ⟨_, _, _, _, .skip, fun _ => ⟨by simp only [Mon.cbToksOf, if_neg hm], fun _ => by simp only [runCb, if_neg hm]⟩⟩
  | replaceWith k =>
    by_cases hc : api = .thinWithArcMut ∧ k ≠ src
    · cases hk : lookup s k with
      | none => exact ⟨_, _, _, _, .skip, fun _ =>
          ⟨by simp only [Mon.cbToksOf, if_pos hc, hk], fun _ => by simp only [runCb, if_pos hc, hk]⟩⟩
      | some h2 =>
        by_cases hthin : h2.kind = .thin
        · exact ⟨_, _, _, _, .replaced hc.1 hc.2 hk hthin, fun _ =>
            ⟨by simp only [Mon.cbToksOf, if_pos hc, hk, if_pos hthin], fun _ => by simp only [runCb, if_pos hc, hk, if_pos hthin]⟩⟩
        · exact ⟨_, _, _, _, .skip, fun _ =>
            ⟨by simp only [Mon.cbToksOf, if_pos hc, hk, if_neg hthin], fun _ => by simp only [runCb, if_pos hc, hk, if_neg hthin]⟩⟩
    · exact ⟨_, _, _, _, .skip, fun _ => ⟨by simp only [Mon.cbToksOf, if_neg hc], fun _ => by simp only [runCb, if_neg hc]⟩⟩
  | swapWith k =>
    by_cases hc : api = .thinWithArcMut ∧ k ≠ src
    · cases hk : lookup s k with
      | none => exact ⟨_, _, _, _, .skip, fun _ =>
          ⟨by simp only [Mon.cbToksOf, if_pos hc, hk], fun _ => by simp only [runCb, if_pos hc, hk]⟩⟩
      | some h2 =>
        by_cases hthin : h2.kind = .thin
        · exact ⟨_, _, _, _, .swapped hc.1 hc.2 hk hthin, fun _ =>
            ⟨by simp only [Mon.cbToksOf, if_pos hc, hk, if_pos hthin], fun _ => by simp only [runCb, if_pos hc, hk, if_pos hthin]⟩⟩
        · exact ⟨_, _, _, _, .skip, fun _ =>
            ⟨by simp only [Mon.cbToksOf, if_pos hc, hk, if_neg hthin], fun _ => by simp only [runCb, if_pos hc, hk, if_neg hthin]⟩⟩
    · exact ⟨_, _, _, _, .skip, fun _ => ⟨by simp only [Mon.cbToksOf, if_neg hc], fun _ => by simp only [runCb, if_neg hc]⟩⟩

theorem runCb_preserves (api : CbApi) (src : Nat) (P : State → HV → Prop)
    (hstep : ∀ {s s' : State} {t t' : HV} {a : CbAct} {tk : Mon.CbTok} {piece : String},
      CbStep api src s t a s' t' tk piece → P s t → P s' t') (script : List CbAct) :
    ∀ (s : State) (t : HV) (acc : String), P s t → ∃ t', P (runCb api src script s t acc).1 t' := by
  induction script with
  | nil => intro s t acc hp; exact ⟨t, hp⟩
  | cons a rest ih =>
    intro s t acc hp
    by_cases ha : a = .panic
    · subst ha; exact ⟨t, hp⟩
    · obtain ⟨s', t', tk, piece, hc, hr⟩ := runCb_cons api src a s t ha
      rw [(hr rest).2]
      exact ih _ _ _ (hstep hc hp)

end M1
