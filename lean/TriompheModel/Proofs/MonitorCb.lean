import TriompheModel.Proofs.MonitorBase
/-!
# The callback clauses K12 (C04) and K13 (C03 / C10) on the model's observations

`cbToksOf` (Model/Monitor.lean) mirrors the token emission of `runCb`; both advance one `CbStep` at a time (`runCb_cons`),
under `CbP`: the invariant holds inside the callback and the lending slot stands on the transient's block.  K12: in a
script without `replaceWith` / `swapWith` a `cnt` token is the number of owners of the transient's block, which is the
number before the call plus the `cloned` tokens so far.  K13: the monitor's virtual slot table stays the (slot, block)
projection of the model's slot table along the script, and `cur` the transient's block.
-/
namespace M1
namespace Mon

theorem cbp_reads {src : Nat} {s : State} {t : HV} (hp : CbP src s t) : loadCount s.mem t.blk = owners s t.blk := by
  obtain ⟨hi, hs, hl, hb, _⟩ := hp
  rw [← hb]
  exact hi.loadCount_eq hl

theorem k12_walk (tags : List String) (api : CbApi) (src : Nat) : ∀ (script : List CbAct) (s : State) (t : HV),
    script.any isReplSwap = false → CbP src s t →
    k12Walk tags src (owners s t.blk) (cbToksOf api src script s t) = [] := by
  intro script
  induction script with
  | nil => intro s t _ _; rfl
  | cons a rest ih =>
    intro s t hns hp
    simp only [List.any_cons, Bool.or_eq_false_iff] at hns
    by_cases ha : a = .panic
    · subst ha; rfl
    · obtain ⟨s', t', tk, piece, hc, hr⟩ := runCb_cons api src a s t ha
      have := ih s' t' hns.2 (hc.cbp hp)
      rw [(hr rest).1]
      cases hc with
      | cnt => simp only [k12Walk, cbp_reads hp, beq_self_eq_true, if_true]; exact this
      | read | skip | mutNone | mutSome => exact this
      | @cloned k m c hk hcl =>
        have hb : (if api = .thinWithArcMut then ThinArc.of_arc c else c : HV).blk = t.blk := by
          have := (cloneHandle_spec hcl).2.1
          split <;> exact this
        rw [owners_eq, put_slots, ownersL_cons, if_pos hb] at this
        exact this
      | clonedArc =>
        rw [owners_eq, put_slots, ownersL_cons, if_pos (by rfl)] at this
        exact this
      | replaced | swapped => cases hns.1

theorem cbp_of_step {s : State} (hi : Inv s) {src : Nat} {api : CbApi} {h t : HV} (hl : lookup s src = some h)
    (ht : transientOf s.mem api h = some t) : CbP src s t ∧ t.blk = h.blk :=
  ⟨.start hi.toInv' hl ht, (transientOf_spec ht).1⟩

theorem cbToksFor_withCb {s : State} {src : Nat} {api : CbApi} {script : List CbAct} {h t : HV}
    (hl : lookup s src = some h) (ht : transientOf s.mem api h = some t) :
    cbToksFor s (.withCb src api script) = cbToksOf api src script s t := by
  simp only [cbToksFor, hl, ht]

theorem K12_sound {s : State} (hi : Inv s) (op : Op) : checkK12 (observeSlots s) op (observe s op) = [] := by
  cases op with
  | withCb src api script =>
    simp only [checkK12]
    split
    · rfl
    · rename_i hc
      simp only [Bool.or_eq_true, not_or, Bool.not_eq_true] at hc
      obtain ⟨r, e, hr⟩ := step_cases s (.withCb src api script)
      cases hr with
      | bad =>
        rw [observe_bad e] at hc
        cases hc.1
      | @withCb _ _ _ h t hl ht =>
        obtain ⟨hp, hb⟩ := cbp_of_step hi hl ht
        rw [lookupO_pre hl, observe_eq e]
        simp only [cbToksFor_withCb hl ht, slotObs_blk, ownersO_observe, ← hb]
        exact k12_walk _ api src script s t hc.2 hp
  | _ => rfl
theorem checkK12_withEvs (pre : List (Nat × SlotObs)) (op : Op) (o : Obs) (evs' : List Event) :
    checkK12 pre op (o.withEvs evs') = checkK12 pre op o := rfl

def vmap (sl : Slots) : VS := sl.map fun e => (e.1, e.2.blk)

theorem vOf_observe (s : State) : vOf (observeSlots s) = vmap s.slots := by
  simp only [vOf, observeSlots, vmap, List.map_map]
  rfl

theorem vOwners_vmap (sl : Slots) (b : Nat) : vOwners (vmap sl) b = ownersL sl b := by
  simp only [vOwners, vmap, ownersL, List.countP_map]
  rfl

theorem vLookup_vmap (sl : Slots) (i : Nat) : vLookup (vmap sl) i = (lookupL sl i).map (·.blk) := by
  simp only [vLookup, vmap, lookupL, List.find?_map, Option.map_map]
  rfl

theorem vmap_setL (sl : Slots) (i : Nat) (h : HV) : vmap (setL sl i h) = vSet (vmap sl) i h.blk := by
  simp only [vmap, setL, vSet, List.map_map]
  apply List.map_congr_left
  intro e _
  simp only [Function.comp]
  by_cases he : (e.1 == i) = true
  · simp [he]
  · simp [he]

theorem vmap_delL (sl : Slots) (i : Nat) : vmap (delL sl i) = vDel (vmap sl) i := by
  simp only [vmap, delL, vDel, List.filter_map]
  rfl

theorem vmap_put (s : State) (m : Mem) (k : Nat) (c : HV) : vmap (s.put m k c).slots = (k, c.blk) :: vmap s.slots := rfl

theorem cbp_unique {src : Nat} {s : State} {t : HV} (hp : CbP src s t) :
    Arc.is_unique s.mem t = (vOwners (vmap s.slots) t.blk == 1) := by
  rw [vOwners_vmap]; exact is_unique_owners (cbp_reads hp)

theorem k13Walk_cons {src : Nat} {a : CbAct} {tk : CbTok} {cur : Nat} {vs : VS} {r : Nat × VS}
    (h : k13Step src a tk cur vs = .ok r) (as : List CbAct) (tks : List CbTok) :
    k13Walk src (a :: as) (tk :: tks) cur vs = k13Walk src as tks r.1 r.2 := by
  simp only [k13Walk, h]

theorem k13_walk (src : Nat) : ∀ (script : List CbAct) (s : State) (t : HV) (acc : String), CbP src s t →
    ∃ c, k13Walk src script (cbToksOf .thinWithArcMut src script s t) t.blk (vmap s.slots) =
      .ok (c, vmap (runCb .thinWithArcMut src script s t acc).1.slots) := by
  intro script
  induction script with
  | nil => intro s t acc _; exact ⟨t.blk, rfl⟩
  | cons a rest ih =>
    intro s t acc hp
    by_cases ha : a = .panic
    · subst ha; exact ⟨t.blk, rfl⟩
    · obtain ⟨s', t', tk, piece, hc, hr⟩ := runCb_cons .thinWithArcMut src a s t ha
      obtain ⟨c, hw⟩ := ih s' t' (acc ++ piece) (hc.cbp hp)
      refine ⟨c, ?_⟩
      rw [(hr rest).1, (hr rest).2, ← hw]
      have look : ∀ {k : Nat} {h2 : HV}, lookup s k = some h2 → vLookup (vmap s.slots) k = some h2.blk := by
        intro k h2 hk
        rw [vLookup_vmap, ← lookup_eq, hk]; rfl
      -- in each case: what `k13Step` answers, which is the (slot, block) projection of what the action did
      refine k13Walk_cons (r := (t'.blk, vmap s'.slots)) ?_ _ _
      cases hc with
      | cnt | read | skip => rfl
      | cloned hk hcl =>
        rw [vmap_put, if_pos rfl, show (ThinArc.of_arc _).blk = t.blk from (cloneHandle_spec hcl).2.1]
        rfl
      | clonedArc _ hro => cases hro
      | mutSome _ hu => simp only [k13Step, ← cbp_unique hp, hu, if_true]
      | mutNone _ hu => simp only [k13Step, ← cbp_unique hp, hu, Bool.false_eq_true, if_false]
      | replaced _ _ hk _ => simp only [k13Step, look hk, set_slots, del_slots, vmap_setL, vmap_delL]; rfl
      | swapped _ _ hk _ => simp only [k13Step, look hk, set_slots, vmap_setL]; rfl

theorem k13Pos_vmap {s : State} (hi : Inv s) : (vmap s.slots).filterMap (k13Pos (observeSlots s)) = [] := by
  rw [List.filterMap_eq_nil_iff]
  intro e he
  simp only [vmap, List.mem_map] at he
  obtain ⟨⟨i, h⟩, hm, rfl⟩ := he
  have hl : lookup s i = some h := mem_lookupL hi.keys hm
  simp only [k13Pos, lookupO_observe, hl, Option.map_some, slotObs, beq_self_eq_true, if_true]

theorem K13_sound {s : State} (hi : Inv s) (op : Op) : checkK13 (observeSlots s) op (observe s op) = [] := by
  cases op with
  | withCb src api script =>
    simp only [checkK13]
    split
    · rename_i hc
      simp only [Bool.and_eq_true] at hc
      have ha : api = .thinWithArcMut := by
        cases api <;> first | rfl | exact absurd hc.1 (by decide)
      subst ha
      obtain ⟨r, e, hr⟩ := step_cases s (.withCb src .thinWithArcMut script)
      cases hr with
      | bad =>
        rw [observe_bad e] at hc
        cases hc.2
      | @withCb _ _ _ h t hl ht =>
        obtain ⟨hp, hb⟩ := cbp_of_step hi hl ht
        obtain ⟨c, hw⟩ := k13_walk src script s t "" hp
        have hi' := inv_step s (.withCb src .thinWithArcMut script) hi
        rw [e] at hi'
        rw [lookupO_pre hl, observe_eq e]
        simp only [cbToksFor_withCb hl ht, slotObs_blk, ← hb, vOf_observe, hw]
        exact k13Pos_vmap hi'
    · rfl
  | _ => rfl

theorem checkK13_withEvs (pre : List (Nat × SlotObs)) (op : Op) (o : Obs) (evs' : List Event) :
    checkK13 pre op (o.withEvs evs') = checkK13 pre op o := rfl

/-! ## the tokens are what `runCb` prints

`cbToksOf` is defined by the same recursion as `runCb`; this is the link to the string: the `out` field of `runCb` is the
accumulator followed by one piece per token, each piece rendering its token (`Driver/Mon.lean`, `parseCbToks`, splits at
`;` and inverts `Renders`; that inversion is tested, not proved). -/

def Renders : CbTok → String → Prop
  | .cnt n, str => str = s!"cnt={n};"
  | .val, str => ∃ d : String, str = s!"val={d};"
  | .cloned, str => str = "cloned;"
  | .skip, str => str = "skip;"
  | .mutSome, str => str = "mut=some;"
  | .mutNone, str => str = "mut=none;"
  | .replaced, str => str = "replaced;"
  | .swapped, str => str = "swapped;"
  | .other, _ => False
  | .cntBad, _ => False

inductive RendersAll : List CbTok → List String → Prop
  | nil : RendersAll [] []
  | cons {tk : CbTok} {str : String} {tks : List CbTok} {strs : List String} :
      Renders tk str → RendersAll tks strs → RendersAll (tk :: tks) (str :: strs)

def catAll : List String → String
  | [] => ""
  | x :: r => x ++ catAll r

theorem renders_of_cbStep {api : CbApi} {src : Nat} {s s' : State} {t t' : HV} {a : CbAct} {tk : CbTok}
    {piece : String} (h : CbStep api src s t a s' t' tk piece) : Renders tk piece := by
  cases h <;> first | rfl | exact ⟨_, rfl⟩

theorem runCb_out (api : CbApi) (src : Nat) : ∀ (script : List CbAct) (s : State) (t : HV) (acc : String),
    ∃ strs : List String, (runCb api src script s t acc).2.out = acc ++ catAll strs ∧
      RendersAll (cbToksOf api src script s t) strs := by
  intro script
  induction script with
  | nil => intro s t acc; exact ⟨[], by simp [runCb, ok, catAll], .nil⟩
  | cons a rest ih =>
    intro s t acc
    by_cases ha : a = .panic
    · subst ha; exact ⟨[], by simp [runCb, panicked, catAll], .nil⟩
    · obtain ⟨s', t', tk, piece, hc, hr⟩ := runCb_cons api src a s t ha
      obtain ⟨strs, h1, h2⟩ := ih s' t' (acc ++ piece)
      rw [(hr rest).1, (hr rest).2]
      exact ⟨piece :: strs, by rw [h1, catAll, String.append_assoc], .cons (renders_of_cbStep hc) h2⟩

theorem observe_cbToks_out (s : State) (src : Nat) (api : CbApi) (script : List CbAct) :
    ∃ strs : List String, (step s (.withCb src api script)).2.out = catAll strs ∧
      RendersAll (observe s (.withCb src api script)).cbToks strs := by
  show ∃ strs : List String, _ ∧ RendersAll (cbToksFor s (.withCb src api script)) strs
  -- `step` unfolded, not its graph: `cbToksFor` asks again why the op was refused, which `Step.bad` does not record
  simp only [step, cbToksFor]
  cases lookup s src with
  | none => exact ⟨[], rfl, .nil⟩
  | some h =>
    dsimp only
    cases transientOf s.mem api h with
    | none => exact ⟨[], rfl, .nil⟩
    | some t =>
      obtain ⟨strs, h1, h2⟩ := runCb_out api src script s t ""
      exact ⟨strs, by simpa using h1, h2⟩

end Mon
end M1
