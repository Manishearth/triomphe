import TriompheModel.Proofs.MonitorBase
import TriompheModel.Proofs.HistVal
/-!
# K14 (C01, the destructor runs at the last release) on the model's observations

"When an op frees a block on which, before the op, only initialised views stood, the op destroys every value the
block stores" — unless it hands the value to the caller (`try_unwrap`, `into_inner`, `unwrap_or_clone`, when they
do): `step_frees`, by cases on the graph of `step`.  Where an op is a sequence of changes (the releases of `dropAll`,
the actions of a callback script) the fact is maintained along the sequence (`FD`; `CbFD` adds the typing of the handle
lent, `SlotLaw.CbHolds`, since its release must show the whole payload).
-/
namespace M1
namespace Mon

def IdsKept (b : Nat) (m m' : Mem) : Prop :=
  ∀ k : Block, m.blocks[b]? = some k → ∃ k' : Block, m'.blocks[b]? = some k' ∧ k'.ids = k.ids

namespace IdsKept

theorem same {b : Nat} {m m' : Mem} (h : m'.blocks = m.blocks) : IdsKept b m m' :=
  fun k hk => ⟨k, by rw [h]; exact hk, rfl⟩

theorem refl (b : Nat) (m : Mem) : IdsKept b m m := same rfl

theorem upd (b : Nat) (m : Mem) (b' : Nat) (f : Block → Block) (hf : ∀ k : Block, (f k).ids = k.ids) :
    IdsKept b m (m.upd b' f) := by
  intro k hk
  refine ⟨_, upd_get_some hk b' f, ?_⟩
  split
  · exact hf k
  · rfl

theorem decr (b : Nat) (m : Mem) (b' : Nat) (t : Ty) (len : Nat) : IdsKept b m (decr m b' t len) := by
  unfold M1.decr
  split
  · exact refl b m
  · split
    · exact upd b m b' (fun k => { k with count := 0, live := false }) (fun _ => rfl)
    · exact upd b m b' _ (fun _ => rfl)

theorem incr (b : Nat) (m : Mem) (b' : Nat) : IdsKept b m (incr m b') := upd b m b' _ (fun _ => rfl)

theorem writeVal (b : Nat) (m : Mem) (b' v : Nat) : IdsKept b m (writeVal m b' v) :=
  upd b m b' _ (fun k => ValInvM.writeVal_ids k v)

end IdsKept

/-! ## the fact, along the micro-steps of an op -/

def FDs (s s' : State) (b : Nat) (ids : List Nat) : Prop :=
  ∃ es, s'.mem.log = s.mem.log ++ es ∧
    ((∃ sz al, Event.dealloc b sz al ∈ es) → ∀ id ∈ ids, Event.drop id ∈ es)

namespace FDs
variable {s s' s'' : State} {b : Nat} {ids : List Nat}

theorem quiet (h : s'.mem.log = s.mem.log) : FDs s s' b ids :=
  ⟨[], by simp [h], fun ⟨_, _, hm⟩ => by cases hm⟩

theorem noDealloc {es : List Event} (h : s'.mem.log = s.mem.log ++ es) (hn : NoDealloc es) : FDs s s' b ids :=
  ⟨es, h, fun ⟨sz, al, hm⟩ => absurd hm (hn b sz al)⟩

theorem trans (h1 : FDs s s' b ids) (h2 : FDs s' s'' b ids) : FDs s s'' b ids := by
  obtain ⟨es, hes, hd⟩ := h1
  obtain ⟨es', hes', hd'⟩ := h2
  refine ⟨es ++ es', by rw [hes', hes, List.append_assoc], ?_⟩
  rintro ⟨sz, al, hm⟩ id hid
  rcases List.mem_append.1 hm with hm | hm
  · exact List.mem_append_left _ (hd ⟨sz, al, hm⟩ id hid)
  · exact List.mem_append_right _ (hd' ⟨sz, al, hm⟩ id hid)

end FDs

def Views (b : Nat) (sl : Slots) : Prop := AllSlots (fun h => h.blk = b → h.ty.elemsInit = true) sl

/-- since the state `s0` at the start of the op: if block `b` has been freed, every identity in `ids` has been
destroyed; `b` still stores `ids`; every slot on `b` is an initialised view -/
structure FD (s0 : State) (b : Nat) (ids : List Nat) (s : State) : Prop where
  log : FDs s0 s b ids
  blk : ∃ k : Block, s.mem.blocks[b]? = some k ∧ k.ids = ids
  views : Views b s.slots

namespace FD
variable {s0 : State} {b : Nat} {ids : List Nat} {s : State}

theorem init {k : Block} (hk : s.mem.blocks[b]? = some k) (hv : Views b s.slots) : FD s b k.ids s :=
  ⟨.quiet rfl, ⟨k, hk, rfl⟩, hv⟩

theorem next (h : FD s0 b ids s) {m' : Mem} {sl' : Slots} (hlog : FDs s ⟨m', sl'⟩ b ids) (hkept : IdsKept b s.mem m')
    (hv : Views b sl') : FD s0 b ids ⟨m', sl'⟩ := by
  obtain ⟨k, hk, hids⟩ := h.blk
  obtain ⟨k', hk', hids'⟩ := hkept k hk
  exact ⟨h.log.trans hlog, ⟨k', hk', hids'.trans hids⟩, hv⟩

theorem quiet (h : FD s0 b ids s) {m' : Mem} {sl' : Slots} (hlog : m'.log = s.mem.log) (hkept : IdsKept b s.mem m')
    (hv : Views b sl') : FD s0 b ids ⟨m', sl'⟩ :=
  h.next (.quiet hlog) hkept hv

theorem put (h : FD s0 b ids s) {m' : Mem} (hlog : m'.log = s.mem.log) (hkept : IdsKept b s.mem m') {i : Nat} {c : HV}
    (hc : c.blk = b → c.ty.elemsInit = true) : FD s0 b ids (s.put m' i c) :=
  h.quiet hlog hkept (h.views.cons i hc)

/-- the release of a handle `a` which — if it stands on `b` — is an initialised view of the whole payload: the only
`dealloc` it can log is that of its own block, after the destructors of everything the view shows -/
theorem arc_drop (h : FD s0 b ids s) (a : HV)
    (hgood : a.blk = b → a.ty.elemsInit = true ∧
      ∃ k : Block, s.mem.blocks[a.blk]? = some k ∧ viewLen s.mem a = k.elems.length)
    {sl' : Slots} (hv : Views b sl') : FD s0 b ids ⟨Arc.drop s.mem a, sl'⟩ := by
  obtain ⟨k0, hk0, hids0⟩ := h.blk
  refine h.next ⟨_, decr_log s.mem a.blk a.ty (viewLen s.mem a), ?_⟩
    (IdsKept.decr b s.mem a.blk a.ty (viewLen s.mem a)) hv
  rintro ⟨sz, al, hm⟩ id hid
  cases hk : s.mem.blocks[a.blk]? with
  | none => rw [hk] at hm; cases hm
  | some k =>
    simp only [hk] at hm ⊢
    by_cases hc : k.count = 1
    · rw [if_pos hc] at hm ⊢
      rcases List.mem_append.1 hm with h1 | h1
      · exact absurd h1 ((quiet_payloadDrops a.blk k a.ty _).noDealloc _ _ _)
      · obtain ⟨rfl, -, -⟩ := Event.dealloc.inj (List.mem_singleton.1 h1)
        cases hk.symm.trans hk0
        obtain ⟨ht, k', hk', hlen⟩ := hgood rfl
        cases hk'.symm.trans hk0
        refine List.mem_append_left _ (mem_dropIds.1 ?_)
        rw [dropIds_payloadDrops_exact _ k0 ht (Nat.le_of_eq hlen.symm), hids0]; exact hid
    · rw [if_neg hc] at hm; cases hm

theorem release_handle (h : FD s0 b ids s) (hl : LenInv s) {i : Nat} {hh : HV} (hs : lookup s i = some hh) :
    FD s0 b ids ⟨Arc.drop s.mem (asArc s.mem hh), delL s.slots i⟩ := by
  obtain ⟨_, _, ho⟩ := hl.ok i hh (lookup_mem hs)
  obtain ⟨k, hk, _, hvl⟩ := hl.viewLen_eq hs
  refine h.arc_drop _ (fun hb => ?_) (h.views.del i)
  rw [asArc_blk] at hb ⊢
  exact ⟨by rw [asArc_ty ho]; exact h.views _ (lookup_mem hs) hb, k, hk, hvl⟩

theorem releaseSlot (h : FD s0 b ids s) (hl : LenInv s) (i : Nat) : FD s0 b ids (releaseSlot s i) := by
  unfold M1.releaseSlot
  split
  · rename_i hh hs
    exact h.release_handle hl hs
  · exact h

theorem dropAllFrom (keys : List Nat) :
    ∀ {s : State}, Inv' s → LenInv s → FD s0 b ids s → FD s0 b ids (dropAllFrom keys s) := by
  induction keys with
  | nil => exact fun _ _ h => h
  | cons k r ih =>
    intro s hi hl h
    have hm := releaseSlot_micros s k
    exact ih (hm.preserves Inv'.micro hi) (TyInvG.toLen ((tyLaw id).micros hm hi hl.toTy)) (h.releaseSlot hl k)

end FD

structure CbFD (s0 : State) (b : Nat) (ids : List Nat) (api : CbApi) (src : Nat) (s : State) (t : HV) : Prop where
  ty : SlotLaw.CbHolds (fun m => False → DL m) (TyQ False) api src s t
  fd : FD s0 b ids s
  tinit : t.blk = b → t.ty.elemsInit = true

theorem transientOf_init {m : Mem} {api : CbApi} {h t : HV} (ht : transientOf m api h = some t)
    (hi : h.ty.elemsInit = true) : t.ty.elemsInit = true := by
  cases transientOf_graph ht with
  | thinWithArc | thinWithArcMut => rfl
  -- a fat transient of the handle's view type
  | _ => exact hi

namespace CbFD

theorem step {s0 : State} {b : Nat} {ids : List Nat} {api : CbApi} {src : Nat} {s s' : State} {t t' : HV}
    {a : CbAct} {tk : CbTok} {piece : String} (hc : CbStep api src s t a s' t' tk piece)
    (hp : CbFD s0 b ids api src s t) : CbFD s0 b ids api src s' t' := by
  obtain ⟨hty, hfd, hti⟩ := hp
  have hty' := (tyLaw id).cbStep hc hty
  obtain ⟨kb, hkb, ho⟩ := hty.2.2.1
  cases hc with
  | cnt | read | skip | mutNone => exact ⟨hty', hfd, hti⟩
  | @cloned k m c hk hcl =>
    obtain ⟨rfl, h2, _, _⟩ := cloneHandle_spec hcl
    refine ⟨hty', hfd.put (m' := incr s.mem t.blk) rfl (IdsKept.incr _ _ _) ?_, hti⟩
    -- a clone has the view type of the original, or — a `ThinArc` — the `HeaderWithLength` one
    have hc : c.blk = b → c.ty.elemsInit = true := fun hb => by
      obtain ⟨_, hfat, hthin⟩ := cloneHandle_fields hcl
      cases hnt : t.kind.isThin with
      | true => rw [hthin hnt]; rfl
      | false => rw [(hfat hnt).1]; exact hti (h2 ▸ hb)
    split
    · exact hc
    · exact hc
  | clonedArc => exact ⟨hty', hfd.put (m' := incr s.mem t.blk) rfl (IdsKept.incr _ _ _) hti, hti⟩
  | mutSome => exact ⟨hty', hfd.quiet rfl (IdsKept.writeVal _ _ _ _) hfd.views, hti⟩
  | @replaced k h2 =>
    exact ⟨hty', hfd.arc_drop t (fun hb => ⟨hti hb, kb, hkb, viewLen_of_ok hkb ho.1⟩)
      ((hfd.views.del k).set src fun _ => rfl), fun _ => rfl⟩
  | @swapped k h2 =>
    exact ⟨hty', hfd.quiet rfl (IdsKept.refl _ _) ((hfd.views.set k (h := ThinArc.of_arc t) hti).set src
      (h := ThinArc.of_arc (ThinArc.thick s.mem h2)) fun _ => rfl), fun _ => rfl⟩

theorem run {s0 : State} {b : Nat} {ids : List Nat} {src : Nat} {api : CbApi} (script : List CbAct)
    (s : State) (t : HV) (acc : String) (h0 : CbFD s0 b ids api src s t) :
    FD s0 b ids (runCb api src script s t acc).1 :=
  (runCb_preserves api src (CbFD s0 b ids api src) step script s t acc h0).elim fun _ h => h.fd

end CbFD

/-! ## every op -/

def handsOut : Op → Bool
  | .tryUnwrap _ | .intoInner _ | .unwrapOrClone _ _ => true
  | _ => false

theorem make_mut_events {m m' : Mem} {a : HV} {cp : Bool} {o : Option HV} (hmm : Arc.make_mut m a cp = (m', o))
    (hlt : a.blk < m.blocks.length) : ∃ es, m'.log = m.log ++ es ∧ NoDealloc es := by
  cases make_mut_graph hmm with
  | unique | panicked => exact ⟨[], (List.append_nil _).symm, Quiet.nil.noDealloc⟩
  | redirected hu =>
    obtain ⟨ce, sz, al, hlog, _, hq⟩ := make_mut_shared_log hlt hu
    exact ⟨_, hlog, hq.noDealloc.append (noDealloc_alloc _ _ _)⟩

section
variable {s : State} {b : Nat} {k : Block}

theorem fds_makeMut (hi : Inv s) (ids : List Nat) {src : Nat} {h : HV} (hs : lookup s src = some h) {a : HV}
    (ha : a.blk = h.blk) {cp : Bool} {m : Mem} {o : Option HV} (hmm : Arc.make_mut s.mem a cp = (m, o))
    {s' : State} {v : Nat} {x : HV} (hs' : s'.mem = writeVal m x.blk v) : FDs s s' b ids := by
  obtain ⟨es, hes, hnd⟩ := make_mut_events hmm (by rw [ha]; exact hi.inb _ (lookup_mem hs))
  exact .noDealloc (by rw [hs']; exact hes) hnd

variable (hi : Inv s) (hl : LenInv s) (hk : s.mem.blocks[b]? = some k)
  (hv : ∀ e, e ∈ s.slots → e.2.blk = b → e.2.ty.elemsInit = true)
include hi hl hk hv

/-- as `step_free_drops` below, but excluding only the ops that DID hand the value out, as the answer shows (`movesOut`:
`try_unwrap` that answers `Ok`, `into_inner`, `unwrap_or_clone` that did not clone) -/
theorem step_frees (op : Op) (hmv : movesOut op (observe s op) = false) : FDs s (step s op).1 b k.ids := by
  obtain ⟨r, e, hr⟩ := step_cases s op
  rw [e]
  cases hr with
  | intoInner => cases hmv
  | tryUnwrapOk =>
    rw [observe_eq e] at hmv
    simp [movesOut, verdict_tryUnwrap_ok] at hmv
  | @unwrapOrCloneSole src cp h hs =>
    obtain ⟨sz, al, ho⟩ := observe_into_inner hi hs e rfl
    rw [ho] at hmv
    cases hmv
  | unwrapOrClonePanic _ _ hu => exact .quiet (drop_shared_log rfl hu)
  | @unwrapOrCloneShared src h _ _ hu =>
    obtain ⟨ce, hce, _, hq⟩ := cloneValue_log s.mem h.blk
    exact .noDealloc ((drop_shared_log (by rw [cloneValue_blocks]) hu).trans hce) hq.noDealloc
  | bad | createOverflow | conv | intoThin | isUnique | getMutSome | getMutNone | getUniqueSome | getUniqueNone
  | makeMutPanic | makeUniquePanic | tryUniqueOk | tryUniqueErr | uniqWrite | writeSlot | cloneArc | tryUnwrapErr =>
    exact .quiet rfl
  | clone _ _ hc =>
    obtain ⟨rfl, _⟩ := cloneHandle_spec hc
    exact .quiet rfl
  | create => exact .noDealloc rfl (noDealloc_alloc _ _ _)
  | writeSlotRefused =>
    show FDs s ⟨if _ then _ else _, _⟩ b k.ids
    split
    · exact .noDealloc (es := [Event.drop _]) rfl (Quiet.cons rfl Quiet.nil).noDealloc
    · exact .quiet rfl
  | makeMut hs _ hmm | makeUnique hs _ hmm => exact fds_makeMut hi _ hs rfl hmm rfl
  | makeMutOffset hs _ hmm => exact fds_makeMut hi _ hs (a := Arc.from_raw_offset s.mem _) rfl hmm rfl
  | drop hs hd =>
    rw [dropHandle_eq hd]
    exact (FD.release_handle (FD.init hk hv) hl hs).log
  | intoThinRefused hs hc =>
    have := FD.release_handle (FD.init hk hv) hl hs
    rw [asArc_arc hc.1] at this
    exact this.log
  | dropAll => exact (FD.dropAllFrom _ hi.toInv' hl (FD.init hk hv)).log
  | @withCb src api script h t hs htr =>
    refine (CbFD.run (src := src) script s t "" ⟨(tyLaw id).cbStart hi.toInv' hl.toTy hs htr, FD.init hk hv, ?_⟩).log
    intro hb
    exact transientOf_init htr (hv _ (lookup_mem hs) ((transientOf_spec htr).1.symm.trans hb))
  | iterBuilt _ hr =>
    cases hr with
    | built => exact .noDealloc rfl (noDealloc_alloc _ _ _)
  | iterPanicked _ hr =>
    cases hr with
    | noBlock => exact .noDealloc rfl (noDealloc_dropsOf _)
    | noAlloc => exact .noDealloc rfl ((noDealloc_dropsOf _).append (noDealloc_hdrDrops _))
    | leaked => exact .noDealloc (List.append_assoc _ _ _) ((noDealloc_alloc _ _ _).append (noDealloc_dropsOf _))
    | thinMismatch =>
      -- the block built and freed again is a new one
      refine ⟨_, List.append_assoc _ _ _, fun ⟨sz, al, hm⟩ => ?_⟩
      rcases List.mem_append.1 hm with h1 | h1
      · exact absurd h1 (noDealloc_alloc _ _ _ _ _ _)
      · rcases List.mem_append.1 h1 with h2 | h2
        · exact absurd h2 ((noDealloc_hdrDrops _).append (noDealloc_dropsOf _) _ _ _)
        · cases List.mem_singleton.1 h2
          exact absurd (List.getElem?_eq_some_iff.1 hk).1 (Nat.lt_irrefl _)

/-- **the model fact behind K14**: an op that does not hand the value out and frees a block on which only initialised
views stood destroys every value the block stored -/
theorem step_free_drops (op : Op) (hop : handsOut op = false) : FDs s (step s op).1 b k.ids := by
  apply step_frees hi hl hk hv
  cases op with
  | tryUnwrap | intoInner | unwrapOrClone => cases hop
  | _ => rfl

end

/-! ## K14 on the model's observations -/

theorem countP_pos_dealloc {evs : List Event} {b : Nat} (h : evs.countP (isDeallocEv b) ≠ 0) :
    ∃ sz al, Event.dealloc b sz al ∈ evs := by
  have hp : 0 < evs.countP (isDeallocEv b) := Nat.pos_of_ne_zero h
  obtain ⟨e, he, hpe⟩ := List.countP_pos_iff.1 hp
  cases e <;> simp [isDeallocEv] at hpe
  subst hpe
  exact ⟨_, _, he⟩

theorem countP_dropId_of_mem {evs : List Event} {id : Nat} (h : Event.drop id ∈ evs) :
    evs.countP (isDropId id) ≠ 0 := by
  have : 0 < evs.countP (isDropId id) := List.countP_pos_iff.2 ⟨_, h, by simp [isDropId]⟩
  omega

theorem dig_ids_sub {m : Mem} {h : HV} {k : Block} (hk : m.blocks[h.blk]? = some k) :
    ∀ id, id ∈ ((digObs m h).map Dig.ids).getD [] → id ∈ k.ids := by
  intro id hid
  simp only [digObs, hk, Option.map_some, Option.getD_some, Dig.ids] at hid
  rcases List.mem_append.1 hid with h1 | h1
  · apply List.mem_append_left
    cases hh : k.hdr with
    | none => rw [hh] at h1; simp at h1
    | some it => rw [hh] at h1; simpa [optId] using h1
  · apply List.mem_append_right
    split at h1
    · exact (elemIds_take_sublist k.elems _).subset h1
    · simp at h1

theorem K14_sound {s : State} (hi : Inv s) (hl : LenInv s) (st : MSt) (hpre : st.pre = observeSlots s) (op : Op) :
    checkK14 st op (observe s op) = [] := by
  unfold checkK14
  split
  · rfl
  · rename_i hmv
    rw [hpre, List.flatMap_eq_nil_iff]
    intro e he
    obtain ⟨h, hm, he2⟩ := mem_observe he
    obtain ⟨i, q⟩ := e
    cases he2
    unfold k14One
    split
    · rename_i hcond
      simp only [Bool.and_eq_true, bne_iff_ne, ne_eq, List.all_eq_true, Bool.or_eq_true] at hcond
      obtain ⟨⟨hde, _⟩, hall⟩ := hcond
      obtain ⟨k, hk, _⟩ := slot_block hi (mem_lookupL hi.keys hm)
      have hv : Views h.blk s.slots := fun e' he' hb' =>
        (hall _ (List.mem_map.2 ⟨e', he', rfl⟩)).resolve_left fun h1 => h1 hb'
      obtain ⟨es, hes, hd⟩ := step_frees hi hl hk hv op (Bool.eq_false_iff.2 hmv)
      rw [observe_evs hes] at hde ⊢
      rw [List.filterMap_eq_nil_iff]
      intro id hid
      simp [countP_dropId_of_mem (hd (countP_pos_dealloc hde) id (dig_ids_sub hk id hid))]
    · rfl

theorem checkK14_withEvs (st : MSt) (op : Op) (o : Obs) (evs' : List Event)
    (h : evs'.Perm o.evs) : checkK14 st op (o.withEvs evs') = checkK14 st op o := by
  unfold checkK14 movesOut k14One Obs.withEvs
  simp only [h.countP_eq]

end Mon
end M1
