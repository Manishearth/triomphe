import TriompheModel.Proofs.Cmp
/-!
# C14 — comparison, ordering, hashing and formatting see through the pointer

Model: `Model/Cmp.lean` (M5) — every trait method of every handle kind written as the source
delegates, `#[derive]`s expanded, trait default methods where the source defines none.

All theorems quantify over **every** `PayloadOps` (eleven independent functions, no relation assumed
between them) and every `StdCfg`; only `C14_consistent_of_lawful` and `C14_eq_hash` assume that the
payload's own operators are `Lawful` / `LawfulOrd` (which does not include reflexivity: floats
qualify).  `Handle.WF a b` says that two handles into one allocation see one value.

What "the payload's own operator" means for operators a type does not define itself: Rust supplies
the default (`ne := !eq`, `lt := partial_cmp == Some(Less)`, …).  `ThinArc`, `ArcUnion` and the
derived impls of the header types use those defaults, so e.g. `ArcUnion`'s `!=` is `!(a == b)` on
the payload, which is the payload's `!=` exactly when the payload's `ne` is the complement of its
`eq` (`Lawful`).  The statements below say precisely which form holds.
-/
open Cmp
namespace C14

/-- **See-through.**  For handles in distinct allocations every observer that exists on the handle
kind returns what the same observer returns on the held values.
* `Arc`: all eleven.
* `OffsetArc`, `ArcBorrow`: `eq`, `ne`, `Debug` (all there is) — whatever the allocations.
* `ArcUnion`, same variant: `eq` is the payload's, `ne` is its negation (trait default), `Debug`
  is the variant name around the payload's `Debug`.
* `ThinArc`: all ten (no `Display`) equal those of the `HeaderSlice<HeaderWithLength<H>, [T]>` it
  dereferences to; `Arc<HeaderSliceWithLengthProtected>` forwards to `inner`.
* the header-slice value types themselves compose the payload operators lexicographically
  (`C14_header_then_slice`). -/
theorem C14_see_through {α β η τ : Type} (c : StdCfg)
    (P : PayloadOps α) (PB : PayloadOps β) (PH : PayloadOps η) (PT : PayloadOps τ) :
    (∀ (a b : Handle α) (o : Observer), a.alloc ≠ b.alloc →
        observe (arcOps P) o a b = observe P o a.val b.val) ∧
    (∀ (a b : Handle α) (o : Observer), o ∈ Kind.offset.traits →
        observe (offsetOps P) o a b = observe P o a.val b.val) ∧
    (∀ (a b : Handle α) (o : Observer), o ∈ Kind.borrow.traits →
        observe (borrowOps P) o a b = observe P o a.val b.val) ∧
    (∀ (a b : Handle α),
        (unionOps P PB).eq (.first a) (.first b) = P.eq a.val b.val ∧
        (unionOps P PB).ne (.first a) (.first b) = !P.eq a.val b.val ∧
        (unionOps P PB).debug (.first a) = "First(" ++ P.debug a.val ++ ")") ∧
    (∀ (a b : Handle β),
        (unionOps P PB).eq (.second a) (.second b) = PB.eq a.val b.val ∧
        (unionOps P PB).ne (.second a) (.second b) = !PB.eq a.val b.val ∧
        (unionOps P PB).debug (.second a) = "Second(" ++ PB.debug a.val ++ ")") ∧
    (∀ (a b : ThinH η τ) (o : Observer), o ∈ Kind.thin.traits → a.alloc ≠ b.alloc →
        observe (thinOps c PH PT) o a b = observe (hswlOps PH (sliceOps c PT)) o a.val b.val) ∧
    (∀ (x y : Protected η τ) (o : Observer), o ∈ Kind.prot.traits → o ≠ .debug →
        observe (protOps c PH PT) o x y = observe (hswlOps PH (sliceOps c PT)) o x.inner y.inner) := by
  refine ⟨fun a b o h => arc_see_through P a b h o, ?_, ?_, ?_, ?_, ?_, ?_⟩
  · intro a b o ho
    simp only [Kind.traits, List.mem_cons, List.mem_nil_iff, or_false] at ho
    rcases ho with rfl | rfl | rfl <;> rfl
  · intro a b o ho
    simp only [Kind.traits, List.mem_cons, List.mem_nil_iff, or_false] at ho
    rcases ho with rfl | rfl | rfl <;> rfl
  · intro a b; exact ⟨rfl, rfl, rfl⟩
  · intro a b; exact ⟨rfl, rfl, rfl⟩
  · intro a b o ho h; exact thin_see_through c PH PT a b h o ho
  · intro x y o ho hd
    cases o with
    | display => exact absurd ho (by decide)
    | debug => exact absurd rfl hd
    | _ => rfl

/-- An `ArcUnion` holding the first variant never equals one holding the second — whatever the
payloads answer and wherever the allocations are. -/
theorem C14_cross_variant_ne {α β : Type} (PA : PayloadOps α) (PB : PayloadOps β)
    (a : Handle α) (b : Handle β) :
    (unionOps PA PB).eq (.first a) (.second b) = false ∧
    (unionOps PA PB).eq (.second b) (.first a) = false ∧
    (unionOps PA PB).ne (.first a) (.second b) = true ∧
    (unionOps PA PB).ne (.second b) (.first a) = true :=
  ⟨rfl, rfl, rfl, rfl⟩

/-- **The one licence.**  Two handles to the same allocation: `Arc`'s (and `ThinArc`'s) `==` is `true`
and `!=` is `false` without consulting the payload (so also for a NaN); every other observer is
still the payload's.  `OffsetArc`/`ArcBorrow`/`ArcUnion` take no licence at all (see
`C14_see_through`: their statements need no allocation hypothesis). -/
theorem C14_same_alloc_licence {α η τ : Type} (c : StdCfg)
    (P : PayloadOps α) (PH : PayloadOps η) (PT : PayloadOps τ) :
    (∀ (a b : Handle α), a.alloc = b.alloc →
        (arcOps P).eq a b = true ∧ (arcOps P).ne a b = false) ∧
    (∀ (a b : Handle α) (o : Observer), o ≠ .eq → o ≠ .ne →
        observe (arcOps P) o a b = observe P o a.val b.val) ∧
    (∀ (a b : ThinH η τ), a.alloc = b.alloc →
        (thinOps c PH PT).eq a b = true ∧ (thinOps c PH PT).ne a b = false) ∧
    (∀ (a b : ThinH η τ) (o : Observer), o ∈ Kind.thin.traits → o ≠ .eq → o ≠ .ne →
        observe (thinOps c PH PT) o a b = observe (hswlOps PH (sliceOps c PT)) o a.val b.val) := by
  refine ⟨?_, fun a b o h1 h2 => arc_see_through_any P a b o h1 h2, ?_, ?_⟩
  · intro a b h
    simp [arcOps, Cmp.ptrEq, h]
  · intro a b h
    simp [thinOps, arcOps, Cmp.ptrEq, h, defNe]
  · intro a b o ho h1 h2
    cases o with
    | eq => exact absurd rfl h1
    | ne => exact absurd rfl h2
    | display => exact absurd ho (by decide)
    | _ => rfl

/-- **Header first, then slice.**  `HeaderSlice<H, T>` compares, orders and hashes as the pair
(header, slice), lexicographically, its `lt le gt ge` being read off that `partial_cmp`; slices are
lexicographic in their elements with the shorter prefix first and hash as length-then-elements.
`HeaderSlice<HeaderWithLength<H>, [T]>` orders as (header, slice, recorded length); whenever the
recorded length is the slice length on both sides — everything behind a `ThinArc` or a
`HeaderSliceWithLengthProtected` — the length never decides: `partial_cmp`, `cmp` and `==` are those
of (header, slice).  All of it for arbitrary payload operators. -/
theorem C14_header_then_slice {η σ τ : Type} (c : StdCfg)
    (PH : PayloadOps η) (PS : PayloadOps σ) (PT : PayloadOps τ) :
    (∀ (x y : HeaderSlice η σ),
        (hsOps PH PS).partialCmp x y =
          (match PH.partialCmp x.header y.header with
           | some .eq => PS.partialCmp x.slice y.slice
           | o => o) ∧
        (hsOps PH PS).cmp x y =
          (match PH.cmp x.header y.header with
           | .eq => PS.cmp x.slice y.slice
           | o => o) ∧
        (hsOps PH PS).eq x y = (PH.eq x.header y.header && PS.eq x.slice y.slice) ∧
        (hsOps PH PS).ne x y = !(hsOps PH PS).eq x y ∧
        (hsOps PH PS).lt x y = isLt ((hsOps PH PS).partialCmp x y) ∧
        (hsOps PH PS).le x y = isLe ((hsOps PH PS).partialCmp x y) ∧
        (hsOps PH PS).gt x y = isGt ((hsOps PH PS).partialCmp x y) ∧
        (hsOps PH PS).ge x y = isGe ((hsOps PH PS).partialCmp x y) ∧
        (hsOps PH PS).hash x = PH.hash x.header ++ PS.hash x.slice) ∧
    (∀ (x y : τ) (xs ys : List τ),
        (sliceOps c PT).partialCmp (x :: xs) (y :: ys) =
          (match PT.partialCmp x y with
           | some .eq => (sliceOps c PT).partialCmp xs ys
           | o => o) ∧
        (sliceOps c PT).partialCmp [] (y :: ys) = some .lt ∧
        (sliceOps c PT).partialCmp (x :: xs) [] = some .gt ∧
        (sliceOps c PT).partialCmp ([] : List τ) [] = some .eq ∧
        (sliceOps c PT).hash xs = usizeBytes xs.length ++ hashEach PT xs) ∧
    (∀ (x y : HSWL η (List τ)),
        (hswlOps PH (sliceOps c PT)).partialCmp x y =
          thenPartial (PH.partialCmp x.header.header y.header.header)
            (thenPartial (slicePartialCmp PT x.slice y.slice)
              (some (compare x.header.length y.header.length)))) ∧
    (∀ (x y : HSWL η (List τ)), lenOk x → lenOk y →
        (hswlOps PH (sliceOps c PT)).partialCmp x y =
          thenPartial (PH.partialCmp x.header.header y.header.header) (slicePartialCmp PT x.slice y.slice) ∧
        (hswlOps PH (sliceOps c PT)).cmp x y =
          thenOrd (PH.cmp x.header.header y.header.header) (sliceCmp PT x.slice y.slice) ∧
        (hswlOps PH (sliceOps c PT)).eq x y =
          (PH.eq x.header.header y.header.header && sliceEq c PT x.slice y.slice)) := by
  refine ⟨fun x y => ⟨?_, ?_, rfl, rfl, rfl, rfl, rfl, rfl, rfl⟩, fun x y xs ys => ⟨?_, rfl, rfl, rfl, rfl⟩,
    fun x y => rfl, fun x y hx hy => ⟨hswl_pc_lenOk c PH PT x y hx hy, hswl_cmp_lenOk c PH PT x y hx hy,
      hswl_eq_lenOk c PH PT x y hx hy⟩⟩
  · show thenPartial _ _ = _
    unfold thenPartial
    cases PH.partialCmp x.header y.header with
    | none => rfl
    | some v => cases v <;> rfl
  · show thenOrd _ _ = _
    unfold thenOrd
    cases PH.cmp x.header y.header <;> rfl
  · exact slicePartialCmp_cons PT x y xs ys

/-- **Consistency.**  If the payload's own operators are lawful then on every publicly constructible
value the operators of each handle kind and header type agree with one another: `ne = !eq`,
`lt le gt ge` as read off `partial_cmp`, and `==` iff `partial_cmp == Some(Equal)`.
For `HeaderSlice<HeaderWithLength<H>, [T]>` this holds for **all** values, including those whose
recorded length differs from the slice length (`Arc::from_header_and_slice(HeaderWithLength::new(h, n), ..)`
is public): that is the repaired defect F2.  For `Arc`/`ThinArc` the same-allocation licence is
excluded exactly as the property says: the pair is in distinct allocations or the value equals
itself; `ne = !eq` holds even without that. -/
theorem C14_consistent_of_lawful {α β η τ : Type} (c : StdCfg)
    {P : PayloadOps α} {PB : PayloadOps β} {PH : PayloadOps η} {PT : PayloadOps τ}
    (hP : Lawful P) (hH : Lawful PH) (hT : Lawful PT) :
    (∀ (a b : Handle α), a.WF b → (a.alloc ≠ b.alloc ∨ P.eq a.val a.val = true) →
        ConsistentAt (arcOps P) a b) ∧
    (∀ (a b : Handle α), (arcOps P).ne a b = !(arcOps P).eq a b) ∧
    (∀ (a b : Handle α), (offsetOps P).ne a b = !(offsetOps P).eq a b) ∧
    (∀ (a b : Handle α), (borrowOps P).ne a b = !(borrowOps P).eq a b) ∧
    (∀ (a b : UnionH α β), (unionOps P PB).ne a b = !(unionOps P PB).eq a b) ∧
    Lawful (sliceOps c PT) ∧
    Lawful (hsOps PH (sliceOps c PT)) ∧
    Lawful (hswlOps PH (sliceOps c PT)) ∧
    Lawful (protOps c PH PT) ∧
    (∀ (a b : ThinH η τ), a.WF b →
        (a.alloc ≠ b.alloc ∨ (hswlOps PH (sliceOps c PT)).eq a.val a.val = true) →
        ConsistentAt (thinOps c PH PT) a b) :=
  ⟨fun a b hwf h => consistent_arc hP a b hwf h, arc_ne_eq hP, fun _ _ => (hP _ _).ne_eq, fun _ _ => (hP _ _).ne_eq,
    fun _ _ => rfl, lawful_slice c hT, lawful_hs hH (lawful_slice c hT), lawful_hswl hH (lawful_slice c hT),
    lawful_prot c hH hT, fun a b hwf h => consistent_thin c hH hT a b hwf h⟩

/-- **Equal handles hash equally** (and `partial_cmp = Some(cmp)`), for `Ord + Hash` payloads:
`Arc`, `ThinArc`, the three header-slice types and slices. -/
theorem C14_eq_hash {α η τ : Type} (c : StdCfg)
    {P : PayloadOps α} {PH : PayloadOps η} {PT : PayloadOps τ}
    (hP : LawfulOrd P) (hH : LawfulOrd PH) (hT : LawfulOrd PT) :
    (∀ (a b : Handle α), a.WF b → OrdConsistentAt (arcOps P) a b) ∧
    (∀ (a b : ThinH η τ), a.WF b → OrdConsistentAt (thinOps c PH PT) a b) ∧
    LawfulOrd (sliceOps c PT) ∧
    LawfulOrd (hsOps PH (sliceOps c PT)) ∧
    LawfulOrd (hswlOps PH (sliceOps c PT)) ∧
    LawfulOrd (protOps c PH PT) :=
  ⟨fun a b hwf => ordConsistent_arc hP a b hwf, fun a b hwf => ordConsistent_thin c hH hT a b hwf,
    lawfulOrd_slice c hT, lawfulOrd_hs hH (lawfulOrd_slice c hT), lawfulOrd_hswl hH (lawfulOrd_slice c hT),
    lawfulOrd_prot c hH hT⟩

/-- **`Borrow<T> for Arc<T>`**: an `Arc<T>` can stand in for `T` as a map key.  `borrow` is `Deref`,
the hash stream of the handle is the hash stream of the value, and `==` on handles in distinct
allocations is `==` on the values; if the payload's `==` is reflexive the allocation does not
matter at all.  Consequently a lookup with `&T` in a `HashMap` keyed by `Arc<T>` (the model `hmGet`)
finds exactly the entry a map keyed by `T` would find; a `BTreeMap` locates by `cmp`, which on handles
is `cmp` on the values (the model's `btGet` has no statement of its own). -/
theorem C14_borrow_key {α : Type} (P : PayloadOps α) :
    (∀ (a : Handle α), (arcOps P).hash a = P.hash (arcBorrow a)) ∧
    (∀ (a b : Handle α), a.alloc ≠ b.alloc →
        (arcOps P).eq a b = P.eq (arcBorrow a) (arcBorrow b)) ∧
    (∀ (a b : Handle α), (arcOps P).cmp a b = P.cmp (arcBorrow a) (arcBorrow b)) ∧
    ((∀ v, P.eq v v = true) → ∀ (a b : Handle α), a.WF b →
        (arcOps P).eq a b = P.eq (arcBorrow a) (arcBorrow b)) ∧
    (∀ (m : List (Handle α × Nat)) (probe : α),
        hmGet P m probe =
          ((m.map fun e => (e.1.val, e.2)).find? fun e => P.hash probe == P.hash e.1 && P.eq probe e.1).map (·.2)) := by
  refine ⟨fun _ => rfl, ?_, fun _ _ => rfl, ?_, ?_⟩
  · intro a b h
    simp [arcOps, Cmp.ptrEq, arcBorrow, h]
  · intro hr a b hwf
    by_cases hab : a.alloc = b.alloc
    · have hv := hwf hab
      simp [arcOps, Cmp.ptrEq, arcBorrow, hab, ← hv, hr]
    · simp [arcOps, Cmp.ptrEq, arcBorrow, hab]
  · intro m probe
    unfold hmGet arcBorrow
    induction m with
    | nil => rfl
    | cons e m ih =>
      simp only [List.find?_cons, List.map_cons]
      cases hc : (P.hash probe == P.hash e.1.val && P.eq probe e.1.val) with
      | true => rfl
      | false => exact ih

/-! ## Historical witnesses: the two defects of the upstream tree (pre-fix commit d5bf9ae)

`prefixBorrowOps` / `prefixHswlOps` model the code *before* the `fix:` commits 80d4dbc / 3524b4e.
The full-strength statements above are **false** for them; the check prints these witnesses when the
implementation shows the corresponding behaviour again. -/

/-- F1 (historical): with `#[derive(PartialEq)]` on `ArcBorrow(NonNull<T>, ..)`, two borrows of equal
values in distinct allocations are unequal: see-through fails for `eq` and `ne`
(`Arc::new(1).borrow_arc() == Arc::new(1).borrow_arc()` was `false`); hence `ArcUnion` too. -/
theorem C14_prefix_borrow_by_address :
    observe (prefixBorrowOps natOps) .eq ⟨0, 1⟩ ⟨1, 1⟩ ≠ observe natOps .eq 1 1 ∧
    observe (prefixBorrowOps natOps) .ne ⟨0, 1⟩ ⟨1, 1⟩ ≠ observe natOps .ne 1 1 ∧
    (prefixBorrowOps natOps).eq ⟨0, 1⟩ ⟨0, 1⟩ = true := by
  decide +kernel

/-- F1 (historical): the derived `Debug` printed the address, not the value: it distinguishes two
borrows of the same value. -/
theorem C14_prefix_borrow_debug_address :
    (prefixBorrowOps natOps).debug ⟨10, 1⟩ = "ArcBorrow(0xa, PhantomData<&T>)" ∧
    (borrowOps natOps).debug ⟨10, 1⟩ = "1" := by
  decide +kernel

/-- F2 (historical): with the ordering that ignored the recorded length,
`x = (HeaderWithLength::new(7, 1), [1, 2])` and `y = (HeaderWithLength::new(7, 2), [1, 2])` are unequal
yet compare `Equal`, `x <= y && x >= y`: `Lawful` fails for the pre-fix operators although the
payload (`Nat`) is lawful. -/
theorem C14_prefix_hswl_eq_vs_cmp :
    let Q := prefixHswlOps natOps (sliceOps {} natOps)
    let x : HSWL Nat (List Nat) := ⟨⟨7, 1⟩, [1, 2]⟩
    let y : HSWL Nat (List Nat) := ⟨⟨7, 2⟩, [1, 2]⟩
    Q.eq x y = false ∧ Q.ne x y = true ∧ Q.cmp x y = .eq ∧ Q.partialCmp x y = some .eq ∧
    Q.le x y = true ∧ Q.ge x y = true := by
  decide +kernel

theorem C14_prefix_hswl_not_lawful : ¬ Lawful (prefixHswlOps natOps (sliceOps {} natOps)) := by
  intro h
  have := (h ⟨⟨7, 1⟩, [1, 2]⟩ ⟨⟨7, 2⟩, [1, 2]⟩).eq_pc
  revert this
  decide +kernel

/-- the same two values under the current (fixed) operators: consistent -/
theorem C14_fixed_hswl_on_witness :
    let Q := hswlOps natOps (sliceOps {} natOps)
    let x : HSWL Nat (List Nat) := ⟨⟨7, 1⟩, [1, 2]⟩
    let y : HSWL Nat (List Nat) := ⟨⟨7, 2⟩, [1, 2]⟩
    Q.eq x y = false ∧ Q.cmp x y = .lt ∧ Q.partialCmp x y = some .lt ∧ Q.lt x y = true ∧
    Q.ge x y = false := by
  decide +kernel

/-! ## Non-vacuity -/

/-- `Nat` with the standard operators meets `LawfulOrd`; a float-like type with a NaN meets `Lawful` -/
example : LawfulOrd natOps := lawfulOrd_nat
example : Lawful fltOps := lawful_flt

/-- the NaN licence is real: same allocation, `Arc` says equal, the value says unequal -/
example : (arcOps fltOps).eq ⟨3, .nan⟩ ⟨3, .nan⟩ = true ∧ fltOps.eq .nan .nan = false ∧
    (arcOps fltOps).partialCmp ⟨3, .nan⟩ ⟨3, .nan⟩ = none := by decide +kernel

/-- … and in distinct allocations `Arc` follows the value -/
example : (arcOps fltOps).eq ⟨3, .nan⟩ ⟨4, .nan⟩ = false ∧ (arcOps fltOps).ne ⟨3, .nan⟩ ⟨4, .nan⟩ = true := by
  decide +kernel

/-- a scripted, thoroughly unlawful payload over three ids: everything is answered from tables -/
def weird : Tables where
  n := 3
  eq := [false, true, true, false, false, true, true, false, false]
  ne := [false, true, false, true, false, true, false, true, false]
  lt := [true, true, true, true, true, true, true, true, true]
  le := [false, false, false, false, false, false, false, false, false]
  gt := [true, false, false, true, false, false, true, false, false]
  ge := [false, false, true, false, false, true, false, false, true]
  pc := [some .gt, none, some .eq, some .eq, some .lt, none, none, some .eq, some .gt]
  cm := [.lt, .eq, .gt, .gt, .lt, .eq, .eq, .gt, .lt]
  hs := [[1, 2], [], [255]]
  db := ["zero", "one", "two"]
  dp := ["0", "I", "II"]

/-- see-through instantiated at the unlawful payload: `Arc` reproduces every scripted answer -/
example : ∀ o : Observer, observe (arcOps (tabOps weird)) o ⟨0, 0⟩ ⟨1, 2⟩ = observe (tabOps weird) o 0 2 :=
  fun o => (C14_see_through {} (tabOps weird) (tabOps weird) (tabOps weird) (tabOps weird)).1 ⟨0, 0⟩ ⟨1, 2⟩ o (by decide)

/-- header-then-slice at the unlawful payload, concretely: the header's `partial_cmp` answers
`Some(Equal)` for (0, 2), then the slice decides with its first element pair (1, 1) ↦ `Some(Less)` -/
example : (thinOps {} (tabOps weird) (tabOps weird)).partialCmp ⟨0, ⟨⟨0, 1⟩, [1]⟩⟩ ⟨1, ⟨⟨2, 1⟩, [1]⟩⟩ = some .lt ∧
    (thinOps {} (tabOps weird) (tabOps weird)).lt ⟨0, ⟨⟨0, 1⟩, [1]⟩⟩ ⟨1, ⟨⟨2, 1⟩, [1]⟩⟩ = true := by
  decide +kernel

/-- the hypotheses of the consistency theorem are met by publicly constructible values with a
recorded length different from the slice length -/
example : ConsistentAt (hswlOps natOps (sliceOps {} natOps)) ⟨⟨7, 1⟩, [1, 2]⟩ ⟨⟨7, 2⟩, [1, 2]⟩ :=
  (C14_consistent_of_lawful (PB := natOps) {} lawfulOrd_nat.1 lawfulOrd_nat.1 lawfulOrd_nat.1).2.2.2.2.2.2.2.1 _ _

/-- the hash stream of a thin value: header, recorded length, slice length, elements -/
example : (thinOps {} natOps natOps).hash ⟨0, ⟨⟨7, 2⟩, [1, 2]⟩⟩ =
    usizeBytes 7 ++ usizeBytes 2 ++ (usizeBytes 2 ++ (usizeBytes 1 ++ (usizeBytes 2 ++ []))) := by
  rfl

/-- `Borrow`: a map keyed by `Arc<Nat>` probed with a plain `Nat` -/
example : hmGet natOps (hmInsert natOps (hmInsert natOps (hmInsert natOps [] ⟨0, 5⟩ 0) ⟨1, 7⟩ 1) ⟨2, 5⟩ 2) 5 = some 2 ∧
    btGet natOps (btInsert natOps (btInsert natOps [] ⟨0, 5⟩ 0) ⟨1, 7⟩ 1) 6 = none := by
  decide +kernel

end C14
