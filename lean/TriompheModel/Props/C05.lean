import TriompheModel.Proofs.Layout
/-!
# C05 — each block fits its contents and is freed with the layout it was requested with
(the layout/address-arithmetic half; "freed exactly once along every history" is the invariant
`LogInv` of the history model)

*Request side* = what the constructors hand to `alloc`:
`allocLayoutHeaderSlice` (`allocate_for_header_and_slice` → `allocate_for_layout` →
`try_allocate_for_layout`), `allocLayoutFor` (`From<Box<T>>`), `allocLayoutBoxNew` (`Arc::new`),
`allocLayoutNewUninit` (`UniqueArc::new_uninit`).
*Release side* = what `Box::from_raw(self.ptr())` in `drop_slow` / `UniqueArc::into_inner` hands to
`dealloc`: `Layout::for_value` of the (possibly fat) `ArcInner<T>` pointer, i.e. the repr(C) type
layout `arcInnerLayout bits p` of the payload layout `p` denoted by the pointer's type + metadata.

All theorems are for every header/element layout (size any `Nat`, align `2^e`), every `len`, and
every word width `bits = 8·2^k`, `k ≥ 1` (`WordBits`; 16/32/64 are instances).  `Layout.WF`
(size a multiple of align — true of every Rust *type*) is assumed only where it is needed
(element addresses, header erasure).
-/
namespace LY
namespace C05

variable {bits k : Nat} {H T : Layout} {eH eT : Nat} {len : Nat} {L : Layout}

/-- **request = release** for every header+slice constructor: the layout requested by
`allocate_for_header_and_slice::<H, T>(len)` is the type layout of
`ArcInner<HeaderSlice<H, [T]>>` with `len` elements, which is what the release side recomputes from
the fat pointer.  (No hypothesis on the layouts is needed.) -/
theorem C05_request_eq_release (h : allocLayoutHeaderSlice bits H T len = some L) :
    L = (arcInnerLayout bits (headerSliceLayout H T len).1).1 := allocLayoutHeaderSlice_some_eq h

/-- request = release for `From<Box<T>>` (`allocate_for_layout(Layout::for_value(&b))`) -/
theorem C05_request_eq_release_sized {t : Layout} (h : allocLayoutFor bits t = some L) :
    L = (arcInnerLayout bits t).1 := (allocLayoutFor_some h).1

/-- request = release for `Arc::new` (`Box::new(ArcInner{..})`) and `UniqueArc::new_uninit`
(`Layout::new::<ArcInner<MaybeUninit<T>>>()`; `MaybeUninit<T>` has `T`'s layout, so `assume_init`
does not change what the release side computes) -/
theorem C05_request_eq_release_box_uninit (t : Layout) :
    allocLayoutBoxNew bits t = (arcInnerLayout bits t).1 ∧
    allocLayoutNewUninit bits t = (arcInnerLayout bits t).1 := ⟨rfl, rfl⟩

/-- the request side pads twice (the inner `pad_to_align` in `allocate_for_header_and_slice`, the
outer one in `try_allocate_for_layout`).  The inner one is absorbed: requesting with the
un-padded value layout `v` gives the same block whenever the padded request succeeds. -/
theorem C05_inner_pad_absorbed {v : Layout} {e : Nat} (hb : WordBits bits k) (hv : v.AlignIs e)
    (h : allocLayoutFor bits v.padToAlign = some L) : allocLayoutFor bits v = some L := by
  have hvpos := hv.pos
  have hw := word_alignIs hb
  obtain ⟨hle, hr⟩ := Option.ite_none_right_eq_some.mp (allocLayoutFor_eq bits v.padToAlign ▸ h)
  -- the un-padded request passes the check a fortiori, and `roundUp (off + roundUp s a) m = roundUp (off + s) m`
  have hle' : (arcInnerLayout bits v).2 + v.size ≤ maxSize bits (max (wordLayout bits).align v.align) :=
    Nat.le_trans (Nat.add_le_add_left (le_roundUp v.size hvpos) _) hle
  rw [allocLayoutFor_eq, if_pos hle', ← hr]
  show some (Layout.mk _ _) = some (Layout.mk _ _)
  congr 2
  exact (roundUp_roundUp_of_dvd hvpos (reprC2_align_pos hw hv) (reprC2_align_dvd_right hw hv)).symm.trans
    (congrArg (roundUp · _) (roundUp_add_left_of_dvd hvpos (dataOff_dvd bits v)))

/-- header erasure (`From<Arc<HeaderSlice<(), T>>> for Arc<T>` and back): a `HeaderSlice` with the
unit header has exactly the payload's layout, with the payload at offset 0 — hence the same
`ArcInner` layout and data offset whichever of the two types releases the block -/
theorem C05_erase_layout {p : Layout} {e : Nat} (hp : p.AlignIs e) (hwf : p.WF) :
    reprC2 unitLayout p = (p, 0) ∧
    arcInnerLayout bits (reprC2 unitLayout p).1 = arcInnerLayout bits p := by
  rw [reprC2_unit hp hwf]; exact ⟨rfl, rfl⟩

/-- the slice instance: `HeaderSlice<(), [T]>` vs `[T]` for every `len` -/
theorem C05_erase_slice (hT : T.AlignIs eT) (hwf : T.WF) (len : Nat) :
    headerSliceLayout unitLayout T len = (sliceLayout T len, 0) := headerSliceLayout_unit hT hwf len

/-- `HeaderWithLength<H>` (the ThinArc header) is a well-formed header layout: power-of-two
alignment, size a multiple of it, the `length` word aligned and inside -/
theorem C05_headerWithLength (hb : WordBits bits k) (hH : H.AlignIs eH) :
    (headerWithLengthLayout bits H).1.AlignIs (max eH k) ∧
    (headerWithLengthLayout bits H).1.WF ∧
    H.size ≤ (headerWithLengthLayout bits H).2 ∧
    (wordLayout bits).align ∣ (headerWithLengthLayout bits H).2 ∧
    (headerWithLengthLayout bits H).2 + (wordLayout bits).size ≤ (headerWithLengthLayout bits H).1.size :=
  ⟨reprC2_alignIs hH (word_alignIs hb), reprC2_wf _ _, reprC2_off_ge (word_alignIs hb),
   reprC2_off_dvd _ _, reprC2_fits hH (word_alignIs hb)⟩

/-- **fits**: a successfully requested block holds the count, then (at `dataOff`) the payload,
inside which the header is at 0 and the slice at `sliceOff`; nothing overlaps and every element
`i < len` ends inside the block -/
theorem C05_fits (hb : WordBits bits k) (hH : H.AlignIs eH) (hT : T.AlignIs eT)
    (h : allocLayoutHeaderSlice bits H T len = some L) :
    let payload := (headerSliceLayout H T len).1
    let sliceOff := (headerSliceLayout H T len).2
    let dataOff := (arcInnerLayout bits payload).2
    (wordLayout bits).size + H.size + len * T.size ≤ L.size ∧
    (wordLayout bits).size ≤ dataOff ∧
    dataOff + payload.size ≤ L.size ∧
    H.size ≤ sliceOff ∧
    sliceOff + len * T.size ≤ payload.size ∧
    ∀ i, i < len → dataOff + sliceOff + (i + 1) * T.size ≤ L.size := by
  intro payload sliceOff dataOff
  have hL := C05_request_eq_release h
  have hS : (sliceLayout T len).AlignIs eT := hT
  have hP : payload.AlignIs (max eH eT) := reprC2_alignIs hH hS
  have h1 : (wordLayout bits).size ≤ dataOff := dataOff_ge_word hP
  have h2 : dataOff + payload.size ≤ L.size := by rw [hL]; exact arcInner_fits hb hP
  have h3 : H.size ≤ sliceOff := reprC2_off_ge hS
  have h4 : sliceOff + T.size * len ≤ payload.size := reprC2_fits hH hS
  rw [Nat.mul_comm T.size len] at h4
  refine ⟨by omega, h1, h2, h3, h4, ?_⟩
  intro i hi
  have : (i + 1) * T.size ≤ len * T.size := Nat.mul_le_mul_right _ hi
  omega

/-- **offsets aligned**: with the block placed at a `base` aligned as requested, the count, the
payload (`data`), the header, the slice and every element are aligned for their types -/
theorem C05_offsets_aligned (hb : WordBits bits k) (hH : H.AlignIs eH) (hT : T.AlignIs eT)
    (hwf : T.WF) (h : allocLayoutHeaderSlice bits H T len = some L) {base : Nat}
    (hbase : L.align ∣ base) :
    let payload := (headerSliceLayout H T len).1
    let sliceOff := (headerSliceLayout H T len).2
    let dataOff := (arcInnerLayout bits payload).2
    (wordLayout bits).align ∣ base ∧
    payload.align ∣ base + dataOff ∧
    H.align ∣ base + dataOff ∧
    T.align ∣ base + dataOff + sliceOff ∧
    ∀ i, T.align ∣ base + dataOff + sliceOff + i * T.size := by
  intro payload sliceOff dataOff
  have hL := C05_request_eq_release h
  have hS : (sliceLayout T len).AlignIs eT := hT
  have hP : payload.AlignIs (max eH eT) := reprC2_alignIs hH hS
  rw [hL] at hbase
  have hd : payload.align ∣ base + dataOff := dataAddr_aligned hb hP hbase
  have hHd : H.align ∣ payload.align := reprC2_align_dvd_left hH hS
  -- no expected type here: with it `b := T` is tried first and refuted only by unfolding both layouts
  have hTd := reprC2_align_dvd_right hH hS
  have hso : T.align ∣ sliceOff := reprC2_off_dvd H (sliceLayout T len)
  have hslice : T.align ∣ base + dataOff + sliceOff :=
    (Nat.dvd_add_right (Nat.dvd_trans hTd hd)).mpr hso
  refine ⟨Nat.dvd_trans (arcInner_align_dvd_word hb hP) hbase, hd, Nat.dvd_trans hHd hd, hslice, ?_⟩
  intro i
  exact (Nat.dvd_add_right hslice).mpr (Nat.dvd_trans hwf (Nat.dvd_mul_left _ _))

/-- **data aligned** (sized payloads: `Arc::new`, `From<Box>`, `new_uninit`): the address given to
the user is aligned for the payload and the payload ends inside the block -/
theorem C05_data_aligned {p : Layout} {e : Nat} (hb : WordBits bits k) (hp : p.AlignIs e) {base : Nat}
    (hbase : (arcInnerLayout bits p).1.align ∣ base) :
    (base + (arcInnerLayout bits p).2) % p.align = 0 ∧
    (wordLayout bits).size ≤ (arcInnerLayout bits p).2 ∧
    (arcInnerLayout bits p).2 + p.size ≤ (arcInnerLayout bits p).1.size :=
  ⟨Nat.mod_eq_zero_of_dvd (dataAddr_aligned hb hp hbase), dataOff_ge_word hp, arcInner_fits hb hp⟩

/-- **overflow refused**, positive form: a request that is answered went through every check of
`Layout::array` / `Layout::extend` (so each intermediate size is `≤ isize::MAX - (align-1)`) -/
theorem C05_some_bounds (h : allocLayoutHeaderSlice bits H T len = some L) :
    let payload := (headerSliceLayout H T len).1
    T.size * len ≤ maxSize bits T.align ∧
    (headerSliceLayout H T len).2 + T.size * len ≤ maxSize bits (max H.align T.align) ∧
    (arcInnerLayout bits payload).2 + payload.size ≤ maxSize bits (max (wordLayout bits).align payload.align) := by
  intro payload
  obtain ⟨hf, h1, h2⟩ := allocLayoutHeaderSlice_some h
  exact ⟨h1, h2, (allocLayoutFor_some hf).2.2⟩

/-- **overflow refused**, negative form: if the array size, or the header+slice size, or the
count+payload size exceeds the bound, the model's answer is `none` (Rust: `unwrap` on `Err`
panics) — there is no third outcome, in particular no short block -/
theorem C05_overflow_refused :
    (maxSize bits T.align < T.size * len → allocLayoutHeaderSlice bits H T len = none) ∧
    (maxSize bits (max H.align T.align) < (headerSliceLayout H T len).2 + T.size * len →
      allocLayoutHeaderSlice bits H T len = none) ∧
    (maxSize bits (max (wordLayout bits).align (headerSliceLayout H T len).1.align)
        < (arcInnerLayout bits (headerSliceLayout H T len).1).2 + (headerSliceLayout H T len).1.size →
      allocLayoutHeaderSlice bits H T len = none) := by
  rw [allocLayoutHeaderSlice_eq]
  exact ⟨fun h => if_neg fun hc => Nat.not_le_of_lt h hc.1, fun h => if_neg fun hc => Nat.not_le_of_lt h hc.2.1,
    fun h => if_neg fun hc => Nat.not_le_of_lt h hc.2.2⟩

/-- the requested layout is itself a valid Rust `Layout`: even after the final padding its size
is `≤ isize::MAX - (align - 1)` -/
theorem C05_valid_layout (hb : WordBits bits k) (hH : H.AlignIs eH) (hT : T.AlignIs eT)
    (h : allocLayoutHeaderSlice bits H T len = some L) :
    Layout.mk? bits L.size L.align = some L := by
  have hA := reprC2_alignIs (word_alignIs hb) (headerSliceLayout_alignIs hH hT len)
  have : L.size ≤ maxSize bits L.align := by
    rw [C05_request_eq_release h]
    exact roundUp_le_maxSize ⟨_, hA⟩ (C05_some_bounds h).2.2
  rw [Layout.mk?, if_pos this]

/-- `ArcInner::offset_of_data` (used by `from_raw`) cannot panic for a block that was allocated: the `extend` it
performs is the one the request side already performed -/
theorem C05_offsetOfData_some {p : Layout} (h : allocLayoutFor bits p = some L) :
    offsetOfData bits p = some (arcInnerLayout bits p).2 := (allocLayoutFor_some h).2.1

theorem C05_offsetOfData_some_slice (h : allocLayoutHeaderSlice bits H T len = some L) :
    offsetOfData bits (headerSliceLayout H T len).1 =
      some (arcInnerLayout bits (headerSliceLayout H T len).1).2 :=
  C05_offsetOfData_some (allocLayoutHeaderSlice_some h).1

/-- `thin_to_thick` reads the stored length through the thin pointee type (`[T; 0]` tail) and then
uses the block through the fat type (`len` elements): the data offset, the header offset and the
`length` field address do not depend on `len`, so both views address the same fields -/
theorem C05_thin_views_agree (bits : Nat) (H T : Layout) (base len : Nat) :
    (arcInnerLayout bits (thinPayload bits H T len).1).2 = (arcInnerLayout bits (thinPayload bits H T 0).1).2 ∧
    (thinPayload bits H T len).2 = (thinPayload bits H T 0).2 ∧
    thinLengthAddr bits base H T = fatLengthAddr bits base H T len := by
  exact ⟨dataOff_thin bits H T len, rfl, by unfold thinLengthAddr fatLengthAddr; rw [dataOff_thin bits H T len]⟩

/-- the whole story for all three real pointer widths at once -/
theorem C05_all_widths (hbits : bits = 16 ∨ bits = 32 ∨ bits = 64) (hH : H.AlignIs eH) (hT : T.AlignIs eT)
    (h : allocLayoutHeaderSlice bits H T len = some L) :
    L = (arcInnerLayout bits (headerSliceLayout H T len).1).1 ∧
    bits / 8 + H.size + len * T.size ≤ L.size ∧
    Layout.mk? bits L.size L.align = some L := by
  obtain ⟨k, hb⟩ := wordBits_of_real hbits
  exact ⟨C05_request_eq_release h, (C05_fits hb hH hT h).1, C05_valid_layout hb hH hT h⟩

/-! ### non-vacuity: concrete, non-trivial shapes meeting the hypotheses -/

-- u32 header, u16 elements, 7 of them, 64-bit: 8 (count) + 4 + 14 → 26 → padded to 32, align 8
example : allocLayoutHeaderSlice 64 ⟨4, 4⟩ ⟨2, 2⟩ 7 = some ⟨32, 8⟩ := by decide +kernel
-- over-aligned header (align 64): data offset 64, block 192 bytes aligned 64
example : allocLayoutHeaderSlice 64 ⟨64, 64⟩ ⟨3, 1⟩ 5 = some ⟨192, 64⟩ := by decide +kernel
example : (arcInnerLayout 64 (headerSliceLayout ⟨64, 64⟩ ⟨3, 1⟩ 5).1).2 = 64 := by decide +kernel
-- odd size under repr(C): size 3 align 1 elements after a 1-byte header
example : allocLayoutHeaderSlice 64 ⟨1, 1⟩ ⟨3, 1⟩ 3 = some ⟨24, 8⟩ := by decide +kernel
-- zero-sized over-aligned element, zero-sized header
example : allocLayoutHeaderSlice 64 ⟨0, 1⟩ ⟨0, 32⟩ 1000 = some ⟨32, 32⟩ := by decide +kernel
-- From<Box<u32>>: 12 bytes before the outer pad_to_align, 16 after (mutant 14 of DESIGN App. D)
example : allocLayoutFor 64 ⟨4, 4⟩ = some ⟨16, 8⟩ := by decide +kernel
example : (Layout.extend 64 (wordLayout 64) ⟨4, 4⟩).map (·.1) = some ⟨12, 8⟩ := by decide +kernel
-- 32- and 16-bit words
example : allocLayoutHeaderSlice 32 ⟨4, 4⟩ ⟨2, 2⟩ 7 = some ⟨24, 4⟩ := by decide +kernel
example : allocLayoutHeaderSlice 16 ⟨1, 1⟩ ⟨8, 8⟩ 2 = some ⟨32, 8⟩ := by decide +kernel
-- overflow: 2^62 elements of 2 bytes is exactly isize::MAX + 1
example : allocLayoutHeaderSlice 64 ⟨0, 1⟩ ⟨2, 2⟩ (2 ^ 62) = none := by decide +kernel
-- the array fits but count + payload does not
example : Layout.array 64 ⟨1, 1⟩ (2 ^ 63 - 8) = some ⟨2 ^ 63 - 8, 1⟩ ∧
    allocLayoutHeaderSlice 64 ⟨0, 1⟩ ⟨1, 1⟩ (2 ^ 63 - 8) = none := by decide +kernel
-- the largest accepted byte slice on 64 bit: the request is 2^63 - 8 bytes, still a valid Layout
example : allocLayoutHeaderSlice 64 ⟨0, 1⟩ ⟨1, 1⟩ (2 ^ 63 - 16) = some ⟨2 ^ 63 - 8, 8⟩ := by decide +kernel
-- hypotheses are satisfiable by these shapes
example : (⟨64, 64⟩ : Layout).AlignIs 6 ∧ (⟨3, 1⟩ : Layout).AlignIs 0 ∧ (⟨3, 1⟩ : Layout).WF ∧
    (⟨0, 32⟩ : Layout).WF ∧ WordBits 64 3 := by decide +kernel
-- WF matters for element addresses: an (illegal) size-3 align-2 "type" would misalign element 1
example : ¬ (⟨3, 2⟩ : Layout).WF := by decide +kernel
-- HeaderWithLength<u8> on 64 bit: 16 bytes, length at offset 8
example : headerWithLengthLayout 64 ⟨1, 1⟩ = (⟨16, 8⟩, 8) := by decide +kernel

end C05
end LY
