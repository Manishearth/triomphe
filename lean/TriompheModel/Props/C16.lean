import TriompheModel.Proofs.Overflow
import TriompheModel.Generated.Consts
import TriompheModel.Generated.Atomics
/-!
# C16 — reference-count overflow terminates the process instead of wrapping

Model: `Model/Overflow.lean` (M6): `cloneWord G w` is what `Arc::clone` does to the count word,
with the guard's operator, constant and action read from the source on this run
(`Generated.Consts`, facts `genStd` / `genNoStd` for the two configurations).

* `obl_*` — proof obligations on the regenerated facts, by evaluation in the kernel (finite tables).  If the source
  changes so that one is false, this file stops compiling.
* `C16_guard*` — ∀ `w : BitVec 64` (no bound) and ∀ word width: the clone aborts (process
  terminating, not catchable) iff the old count exceeds `isize::MAX`, else it returns `w + 1`
  without wrap.
* `C16_no_wrap_seq` — ∀ finite sequences of clone / drop / forget from count 1.
* `C16_no_wrap_inflight` — ∀ interleavings with up to `n` clones between their `fetch_add` and their
  guard check.
* `C16_catchable_panic_wraps` — necessity witness: with a *catchable* panic as the action the same
  machine reaches "count = 0, block freed, handles still live" (shown on a 3-bit word so that the
  history is short enough to evaluate).
-/
open Overflow
namespace C16

/-! ## obligations on the facts regenerated from `/repo/src` -/

/-- `const MAX_REFCOUNT: usize = isize::MAX as usize` -/
theorem obl_max_refcount : Generated.maxRefcount = .isizeMax := by decide +kernel
/-- the guard is `>` against the constant `MAX_REFCOUNT` … -/
theorem obl_guard_gt_max : Generated.cloneGuard = ⟨.gt, none⟩ := by decide +kernel
/-- … applied to the value `fetch_add` returned (the old count) -/
theorem obl_guard_on_old : Generated.cloneGuardOnOldVsMax = true := by decide +kernel
/-- when it fires, `abort()` is called (not `panic!`, not nothing) -/
theorem obl_action_abort : Generated.cloneGuardAction = .callsAbort := by decide +kernel
/-- `abort()` terminates the process in both configurations (a single, catchable panic is rejected) -/
theorem obl_abort_terminates :
    Generated.abortStd.terminates = true ∧ Generated.abortNoStd.terminates = true := by decide +kernel
/-- every other handle kind's clone path touches no atomic itself and reaches `Arc::clone` -/
def funnelsOk : Bool := Generated.funnels.all (fun f => f.ownAtomics == 0 && f.reaches)
theorem obl_funnels : funnelsOk = true := by decide +kernel
/-- … and the table does cover every clone entry point that is not `Arc::clone` itself -/
def cloneFunnelsPresent : Bool :=
  ["ThinArc::clone", "OffsetArc::clone", "OffsetArc::clone_arc", "ArcBorrow::clone_arc", "ArcUnion::clone"].all
    (fun n => Generated.funnels.any (fun f => f.name == n))
theorem obl_clone_funnels_present : cloneFunnelsPresent = true := by decide +kernel
/-- census: exactly one non-debug `fetch_add` in the crate, and it is the one in `Arc::clone`;
no unattributed write / RMW site -/
def censusOk : Bool :=
  (Generated.sites.filter (fun s => s.kind == .fetchAdd && !s.debugOnly)).map (·.fn_) == ["Arc::clone"] &&
  Generated.unknownWrites.isEmpty &&
  Generated.sites.all (fun s => s.kind != .otherRmw && s.kind != .store || s.debugOnly)
theorem obl_census : censusOk = true := by decide +kernel

theorem good_std : Good genStd = true := by decide +kernel
theorem good_nostd : Good genNoStd = true := by decide +kernel

theorem good_of_mem {G : GuardFacts} (hG : G ∈ [genStd, genNoStd]) : Good G = true := by
  simp only [List.mem_cons, List.mem_nil_iff, or_false] at hG
  rcases hG with rfl | rfl
  · exact good_std
  · exact good_nostd

/-- all obligations on the regenerated facts in one statement (DESIGN App. C: `C16_generated_consts`) -/
theorem C16_generated_consts :
    Good genStd = true ∧ Good genNoStd = true ∧ funnelsOk = true ∧ cloneFunnelsPresent = true ∧
    censusOk = true :=
  ⟨good_std, good_nostd, obl_funnels, obl_clone_funnels_present, obl_census⟩

/-! ## the guard, for every word -/

/-- **C16 (guard), parametric in the facts.**  For every 64-bit count word: the clone ends in a
process-terminating abort iff the old count is above `isize::MAX`; otherwise it returns the word
plus one and the addition did not wrap. -/
theorem guard_of_good {G : GuardFacts} (hG : Good G = true) (w : BitVec 64) :
    (terminated (cloneWord G w) = true ↔ w.toNat > 2 ^ 63 - 1) ∧
    (w.toNat ≤ 2 ^ 63 - 1 → cloneWord G w = .ok (w + 1) ∧ (w + 1).toNat = w.toNat + 1) := by
  constructor
  · exact guardCheck_terminated_iff hG 64 w.toNat (w + 1)
  · intro hle
    refine ⟨guardCheck_ok hG 64 w.toNat (w + 1) hle, ?_⟩
    rw [BitVec.toNat_add]
    change (w.toNat + 1) % 2 ^ 64 = w.toNat + 1
    exact Nat.mod_eq_of_lt (by omega)

/-- **C16_guard** at the facts of the current source, std configuration. -/
theorem C16_guard (w : BitVec 64) :
    (terminated (cloneWord genStd w) = true ↔ w.toNat > 2 ^ 63 - 1) ∧
    (w.toNat ≤ 2 ^ 63 - 1 → cloneWord genStd w = .ok (w + 1) ∧ (w + 1).toNat = w.toNat + 1) :=
  guard_of_good good_std w

/-- the same without `std` (abort = double panic) -/
theorem C16_guard_nostd (w : BitVec 64) :
    (terminated (cloneWord genNoStd w) = true ↔ w.toNat > 2 ^ 63 - 1) ∧
    (w.toNat ≤ 2 ^ 63 - 1 → cloneWord genNoStd w = .ok (w + 1) ∧ (w + 1).toNat = w.toNat + 1) :=
  guard_of_good good_nostd w

/-- a clone never returns normally (`ok`) from a count above `isize::MAX`, and never ends in a
catchable panic or an unclassified state: the only outcomes are `ok (w+1)` and a terminating abort -/
theorem C16_abort_not_catchable (w : BitVec 64) :
    ∀ G ∈ [genStd, genNoStd],
      cloneWord G w = .ok (w + 1) ∧ w.toNat ≤ 2 ^ 63 - 1 ∨
      ∃ a, cloneWord G w = .error a ∧ a.terminates = true ∧ w.toNat > 2 ^ 63 - 1 := by
  intro G hG
  have hg := good_of_mem hG
  by_cases hle : w.toNat ≤ 2 ^ 63 - 1
  · exact Or.inl ⟨guardCheck_ok hg 64 w.toNat (w + 1) hle, hle⟩
  · have hgt := Nat.lt_of_not_le hle
    obtain ⟨a, ha, hta⟩ := guardCheck_abort hg 64 w.toNat (w + 1) hgt
    exact Or.inr ⟨a, ha, hta, hgt⟩

/-- **C16_guard for every word width** (`bits ≥ 1`; 16/32/64-bit targets): arithmetic mod `2^bits`. -/
theorem C16_guard_width (bits : Nat) (hb : 1 ≤ bits) (w : Nat) (hw : w < 2 ^ bits) :
    ∀ G ∈ [genStd, genNoStd],
      (terminated (cloneNat G bits w) = true ↔ w > 2 ^ (bits - 1) - 1) ∧
      (w ≤ 2 ^ (bits - 1) - 1 → cloneNat G bits w = .ok (w + 1) ∧ w + 1 < 2 ^ bits) := by
  intro G hG
  have hg := good_of_mem hG
  have hpow := two_pow_pred hb
  have hpos : 0 < 2 ^ (bits - 1) := Nat.two_pow_pos _
  refine ⟨guardCheck_terminated_iff hg bits w _, fun hle => ?_⟩
  have hs : w + 1 < 2 ^ bits := by omega
  exact ⟨by unfold cloneNat; rw [guardCheck_ok hg _ _ _ hle, fetchAdd_small hs], hs⟩

/-- the 64-bit word model is the `bits = 64` instance of the parametric one -/
theorem C16_word_is_width_64 (G : GuardFacts) (w : BitVec 64) :
    (match cloneWord G w with | .ok v => Except.ok v.toNat | .error a => Except.error a)
      = cloneNat G 64 w.toNat := by
  have e : (w + 1).toNat = fetchAddNat 64 w.toNat := by
    simp [fetchAddNat, BitVec.toNat_add]
  simp only [cloneWord, cloneNat, guardCheck]
  generalize evalGuard G.guard G.max G.onOld 64 w.toNat = r
  cases r with
  | none => rfl
  | some b =>
    cases b with
    | false => simp only [e]
    | true =>
      generalize onFire G = f
      cases f with
      | none => simp only [e]
      | some a => rfl

/-! ## histories -/

/-- **C16_no_wrap_seq.**  For every finite sequence of clone / drop / forget starting from a fresh
allocation (count 1, one handle), on every word width ≥ 2 bits, in both configurations: as long as
the process has not been aborted, the count word equals the number of live plus forgotten handles
(it never wrapped), it never exceeds `MAX_REFCOUNT + 1 = 2^(bits-1)`, it is not 0 and the block has
not been freed while a live or forgotten handle exists.  If the process was aborted, no handle was
produced by the aborting clone (handles ≤ `MAX_REFCOUNT + 1`, word = handles + 1). -/
theorem C16_no_wrap_seq (bits : Nat) (hb : 2 ≤ bits) (ops : List Op) :
    ∀ G ∈ [genStd, genNoStd],
      let s := run G bits ops
      (s.aborted = false →
        s.word = s.live + s.forgotten ∧ s.word ≤ 2 ^ (bits - 1) ∧ s.word < 2 ^ bits ∧
        (s.live + s.forgotten > 0 → s.word ≠ 0 ∧ s.freed = false)) ∧
      (s.aborted = true → s.word = s.live + s.forgotten + 1 ∧ s.live + s.forgotten ≤ 2 ^ (bits - 1)) := by
  intro G hG
  have hg := good_of_mem hG
  obtain ⟨hp, hM⟩ := pow_facts hb
  have hi : Inv bits (run G bits ops) := List.foldlRecOn ops _ (inv_init bits) fun s hs o _ => inv_step hg hb s hs o
  dsimp only
  generalize run G bits ops = s at hi ⊢
  obtain ⟨hw, hle, hfr⟩ := hi
  refine ⟨fun hab => ?_, fun hab => ?_⟩
  · simp only [hab, Bool.false_eq_true, if_false, Nat.add_zero] at hw
    rw [hw]
    exact ⟨rfl, hle, by omega, fun hpos =>
      ⟨Nat.ne_of_gt hpos, Bool.eq_false_iff.mpr fun hf => Nat.ne_of_gt hpos (hfr.mp hf)⟩⟩
  · simp only [hab, if_true] at hw
    exact ⟨hw, hle⟩

/-- **C16_no_wrap_inflight.**  With up to `n` clones between their `fetch_add` and their guard check
(concurrent threads), for every interleaving of fetch_add / check / drop / forget steps: while the
process has not aborted, the word is exactly live + forgotten + in-flight, hence
`≤ MAX_REFCOUNT + 1 + n`, and for `n ≤ 2^(bits-1) - 1` it cannot have wrapped (`< 2^bits`) and is
not 0 while any handle or in-flight clone exists. -/
theorem C16_no_wrap_inflight (bits : Nat) (hb : 2 ≤ bits) (n : Nat) (hn : n ≤ 2 ^ (bits - 1) - 1)
    (ops : List COp) :
    ∀ G ∈ [genStd, genNoStd],
      let s := crun G bits n ops
      s.aborted = false →
        s.word = s.live + s.forgotten + s.pending.length ∧
        s.live + s.forgotten ≤ 2 ^ (bits - 1) ∧
        s.word ≤ 2 ^ (bits - 1) + n ∧ s.word < 2 ^ bits ∧
        (s.live + s.forgotten + s.pending.length > 0 → s.word ≠ 0) := by
  intro G hG
  have hg := good_of_mem hG
  replace hn : 2 ^ (bits - 1) + n < 2 ^ bits := by
    obtain ⟨hp, hM⟩ := pow_facts hb
    omega
  have hi : CInv bits n (crun G bits n ops) :=
    List.foldlRecOn ops _ (cinv_init bits n) fun s hs o _ => cinv_step hg hn s hs o
  dsimp only
  generalize crun G bits n ops = s at hi ⊢
  intro hab
  obtain ⟨hw, hle, hlen⟩ := hi hab
  rw [hw]
  omega

/-! ## non-vacuity and necessity -/

-- the ten start counts of the property, evaluated in the model at the current facts
example : cloneWord genStd 1 = .ok 2 := by decide +kernel
example : cloneWord genStd (BitVec.ofNat 64 (2 ^ 63 - 1)) = .ok (BitVec.ofNat 64 (2 ^ 63)) := by decide +kernel
example : cloneWord genStd (BitVec.ofNat 64 (2 ^ 63)) = .error .processAbort := by decide +kernel
example : cloneWord genNoStd (BitVec.ofNat 64 (2 ^ 63)) = .error .doublePanic := by decide +kernel
example : cloneWord genStd (BitVec.ofNat 64 (2 ^ 64 - 1)) = .error .processAbort := by decide +kernel
example : cloneNat genStd 32 (2 ^ 31 - 1) = .ok (2 ^ 31) := by decide +kernel
example : cloneNat genStd 32 (2 ^ 31) = .error .processAbort := by decide +kernel
example : cloneNat genNoStd 16 (2 ^ 15) = .error .doublePanic := by decide +kernel

-- a history on a 3-bit word (MAX_REFCOUNT = 3) that runs into the guard: 3 clones succeed (word 4),
-- the 4th aborts; the hypotheses of `C16_no_wrap_seq` are met (bits = 3 ≥ 2) and both branches of
-- its conclusion are inhabited
example : (run genStd 3 [.clone, .forget, .clone, .clone]).word = 4 ∧
          (run genStd 3 [.clone, .forget, .clone, .clone]).aborted = false := by decide +kernel
example : (run genStd 3 [.clone, .forget, .clone, .clone, .clone]).aborted = true ∧
          (run genStd 3 [.clone, .forget, .clone, .clone, .clone]).word = 5 ∧
          (run genStd 3 [.clone, .forget, .clone, .clone, .clone, .drop, .clone]).live = 3 := by decide +kernel
-- a clone / drop history that frees the block exactly at the last release
example : (run genStd 64 [.clone, .drop, .drop]).freed = true ∧
          (run genStd 64 [.clone, .drop]).freed = false := by decide +kernel
-- two clones in flight at the limit: the first check passes, the second aborts
example : (crun genStd 3 2 [.fetchAdd, .check 0, .forget, .fetchAdd, .check 0, .forget, .fetchAdd, .fetchAdd]).word = 5 ∧
          (crun genStd 3 2 [.fetchAdd, .check 0, .forget, .fetchAdd, .check 0, .forget, .fetchAdd, .fetchAdd, .check 0]).live = 2 ∧
          (crun genStd 3 2 [.fetchAdd, .check 0, .forget, .fetchAdd, .check 0, .forget, .fetchAdd, .fetchAdd, .check 0, .check 0]).aborted = true := by
  decide +kernel

/-- the same facts with the action turned into a catchable panic -/
def panicFacts : GuardFacts := { genStd with action := .panics }
/-- … and with the guard removed -/
def noGuardFacts : GuardFacts := { genStd with action := .nothing }

/-- **Necessity of "not catchable".**  With a catchable panic as the guard's action, the count stays
incremented after each caught panic; on a 3-bit word: three clones (word 4 = MAX+1, handles 4),
four caught panics push the word around to 0, one more clone now *succeeds* (old value 0), and
dropping that clone frees the block while four handles are still live. -/
theorem C16_catchable_panic_wraps :
    let s := run panicFacts 3 [.clone, .clone, .clone, .clone, .clone, .clone, .clone, .clone, .drop]
    s.aborted = false ∧ s.freed = true ∧ s.live = 4 := by decide +kernel

/-- **Necessity of the guard.**  Without it the word simply wraps. -/
theorem C16_no_guard_wraps :
    let s := run noGuardFacts 3 [.clone, .clone, .clone, .clone, .clone, .clone, .clone]
    s.aborted = false ∧ s.word = 0 ∧ s.live = 8 := by decide +kernel

end C16
