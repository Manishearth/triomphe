import TriompheModel.Proofs.Layout
import TriompheModel.Props.C05
/-!
# C11 — raw pointers round-trip to the same allocation; handles are one word wide
(the address-arithmetic half; "same contents and count, stable across clones and moves" is the
invariant `OffInv` of the history model, and the widths are measured by the correspondence)

`base` is the block address (`heap_ptr`), `p` the payload layout denoted by the pointer's type and
metadata.  For every payload layout (any size incl. 0, any alignment `2^e` incl. > 8), every word
width `bits = 8·2^k`, `k ≥ 1`.
-/
namespace LY
namespace C11

variable {bits k : Nat} {p : Layout} {e : Nat} {L : Layout}

/-- `as_ptr`, `into_raw`, the `OffsetArc` word (`into_raw_offset`) and the `ArcBorrow` word
(`borrow_arc`) are all the address at which the value lives (what `Deref` yields):
base + the repr(C) offset of `data` -/
theorem C11_as_ptr_is_deref_addr (bits base : Nat) (p : Layout) :
    asPtr bits base p = derefAddr bits base p ∧
    intoRaw bits base p = derefAddr bits base p ∧
    intoRawOffset bits base p = derefAddr bits base p ∧
    borrowArc bits base p = derefAddr bits base p ∧
    derefAddr bits base p = base + (arcInnerLayout bits p).2 := ⟨rfl, rfl, rfl, rfl, rfl⟩

/-- `heap_ptr` is the start of the block; the value lives strictly after the count word -/
theorem C11_heap_ptr_is_base (hp : p.AlignIs e) (base : Nat) :
    heapPtr base = base ∧ heapPtr base + (wordLayout bits).size ≤ derefAddr bits base p :=
  ⟨rfl, Nat.add_le_add_left (dataOff_ge_word hp) base⟩

/-- the offset `from_raw` recomputes from the value (`offset_of_data`, via `Layout::extend`) is the
offset `as_ptr` used (repr(C) field offset) -/
theorem C11_offset_recomputed_eq {off : Nat} (h : offsetOfData bits p = some off) :
    off = (arcInnerLayout bits p).2 := by
  obtain ⟨_, hr⟩ := Option.ite_none_right_eq_some.mp (offsetOfData_eq bits p ▸ h)
  exact (Option.some.inj hr).symm

/-- **`from_raw (into_raw a)` recovers the block** — sized payloads (`Arc::new`, `From<Box>`,
`new_uninit`; any block whose request `allocLayoutFor bits p` succeeded) -/
theorem C11_from_raw_into_raw (h : allocLayoutFor bits p = some L) (base : Nat) :
    fromRaw bits (intoRaw bits base p) p = some base := by
  rw [fromRaw, C05.C05_offsetOfData_some h, Option.map_some, intoRaw, asPtr, Nat.add_sub_cancel]

/-- … header+slice payloads (the fat pointer's metadata is `len`): `Arc<HeaderSlice<H,[T]>>` -/
theorem C11_from_raw_into_raw_header_slice {H T : Layout} {len : Nat}
    (h : allocLayoutHeaderSlice bits H T len = some L) (base : Nat) :
    fromRaw bits (intoRaw bits base (headerSliceLayout H T len).1) (headerSliceLayout H T len).1 = some base :=
  C11_from_raw_into_raw (allocLayoutHeaderSlice_some h).1 base

/-- … plain slices `Arc<[T]>` (`from_raw_slice`): every slice constructor allocates through
`allocate_for_header_and_slice::<(), T>` and erases the unit header, after which
`Layout::for_value` of the `*const [T]` is `sliceLayout T len` -/
theorem C11_from_raw_slice {T : Layout} {eT len : Nat} (hT : T.AlignIs eT) (hwf : T.WF)
    (h : allocLayoutHeaderSlice bits unitLayout T len = some L) (base : Nat) :
    fromRaw bits (intoRaw bits base (sliceLayout T len)) (sliceLayout T len) = some base := by
  have := C11_from_raw_into_raw_header_slice h base
  rwa [headerSliceLayout_unit hT hwf len] at this

/-- … trait objects (`into_raw` then `as *const dyn Trait` then `from_raw`): the offset is
recomputed from the vtable's `(size, align)`, which are the concrete type's -/
theorem C11_from_raw_dyn (h : allocLayoutFor bits p = some L) (base : Nat) :
    fromRaw bits (intoRaw bits base p) (forValueDyn p) = some base :=
  C11_from_raw_into_raw (p := p) h base

/-- `from_raw_offset (into_raw_offset a)` recovers the block, and `ArcBorrow::from_ptr` of the data
address followed by `with_arc`/`clone_arc` (`Arc::from_raw(self.0)`) finds it as well -/
theorem C11_offset_arc_roundtrip (h : allocLayoutFor bits p = some L) (base : Nat) :
    fromRawOffset bits (intoRawOffset bits base p) p = some base ∧
    fromRaw bits (borrowArc bits base p) p = some base :=
  ⟨C11_from_raw_into_raw h base, C11_from_raw_into_raw h base⟩

/-- the pointer handed out is aligned for the payload and the payload lies inside the block -/
theorem C11_data_addr_aligned_in_bounds (hb : WordBits bits k) (hp : p.AlignIs e) {base : Nat}
    (hbase : (arcInnerLayout bits p).1.align ∣ base) :
    asPtr bits base p % p.align = 0 ∧
    asPtr bits base p + p.size ≤ base + (arcInnerLayout bits p).1.size := by
  have h := C05.C05_data_aligned hb hp hbase
  unfold asPtr
  exact ⟨h.1, by omega⟩

/-- one-word handles: the model's width table (thin pointee ⇒ 1 word, slice/str/dyn ⇒ 2) -/
theorem C11_widths : handleWords false = 1 ∧ handleWords true = 2 := by decide +kernel

/-! ### ThinArc — known deviation `ThinArc-raw-is-block-address` (DESIGN §7, F3)

Full-strength statement required by the property text (NOT provable, refuted below):

    (full strength)  C11_thin_as_ptr_is_deref_addr :
        thinAsPtr base = thinDerefAddr bits base H T len ∧
        thinIntoRaw base = thinDerefAddr bits base H T len

`ThinArc::as_ptr` / `into_raw` (and the arc-swap glue, which calls them) return `self.ptr()`, the
address of the block, not the address at which the `HeaderSlice` value lives.  What *is* true and
claimed: `_partial` (block address; the value address is that plus a computable offset) and the
round trip. -/

/-- what the code does: the raw ThinArc pointer is the block address (= `heap_ptr`) -/
theorem C11_thin_as_ptr_is_base (base : Nat) :
    thinAsPtr base = base ∧ thinIntoRaw base = base ∧ thinHeapPtr base = base ∧ thinPtr base = base :=
  ⟨rfl, rfl, rfl, rfl⟩

/-- `ThinArc::from_raw (ThinArc::into_raw t)` is the same word, hence the same block -/
theorem C11_thin_roundtrip (base : Nat) : thinFromRaw (thinIntoRaw base) = base := rfl

/-- concrete witness against the full-strength statement: `ThinArc<u32, u16>` with 3 elements on
64 bit — `Deref` yields `base + 8`, `as_ptr`/`into_raw` yield `base` -/
theorem C11_thin_deviation_witness (base : Nat) :
    thinDerefAddr 64 base ⟨4, 4⟩ ⟨2, 2⟩ 3 = base + 8 ∧
    thinAsPtr base ≠ thinDerefAddr 64 base ⟨4, 4⟩ ⟨2, 2⟩ 3 ∧
    thinIntoRaw base ≠ thinDerefAddr 64 base ⟨4, 4⟩ ⟨2, 2⟩ 3 := by
  have h : (arcInnerLayout 64 (thinPayload 64 ⟨4, 4⟩ ⟨2, 2⟩ 3).1).2 = 8 := by decide +kernel
  have hd : thinDerefAddr 64 base ⟨4, 4⟩ ⟨2, 2⟩ 3 = base + 8 := by
    unfold thinDerefAddr; rw [h]
  refine ⟨hd, ?_, ?_⟩ <;> (rw [hd]; simp only [thinAsPtr, thinIntoRaw, thinPtr]; omega)

/-- the deviation is not an accident of that shape: for *every* header/element layout and length
the raw pointer is strictly below the value's address -/
theorem C11_thin_as_ptr_never_deref_addr {H T : Layout} {eH eT : Nat} (hb : WordBits bits k)
    (hH : H.AlignIs eH) (hT : T.AlignIs eT) (base len : Nat) :
    thinAsPtr base < thinDerefAddr bits base H T len := by
  have h1 := dataOff_ge_word (bits := bits) (thinPayload_alignIs hb hH hT len)
  have h2 : 0 < (wordLayout bits).size := by rw [word_size hb]; exact Nat.two_pow_pos k
  unfold thinAsPtr thinPtr thinDerefAddr
  omega

/-- **claimed for ThinArc** (`_partial`): the raw pointer is the block address, it round-trips, and
the value's address is the raw pointer plus the (length-independent, aligned) data offset — i.e.
every statement of C11 except "the raw pointer *is* the value's address" -/
theorem C11_thin_as_ptr_partial {H T : Layout} {eH eT : Nat} (hb : WordBits bits k)
    (hH : H.AlignIs eH) (hT : T.AlignIs eT) (base len : Nat) :
    thinAsPtr base = thinHeapPtr base ∧
    thinFromRaw (thinIntoRaw base) = base ∧
    thinDerefAddr bits base H T len = thinAsPtr base + (arcInnerLayout bits (thinPayload bits H T 0).1).2 ∧
    ((arcInnerLayout bits (thinPayload bits H T len).1).1.align ∣ base →
      (thinPayload bits H T len).1.align ∣ thinDerefAddr bits base H T len) := by
  exact ⟨rfl, rfl, congrArg (base + ·) (dataOff_thin bits H T len), dataAddr_aligned hb (thinPayload_alignIs hb hH hT len)⟩

/-! ### non-vacuity -/

-- over-aligned payload (align 64): the value lives 64 bytes into the block; round trip recovers it
example : asPtr 64 4096 ⟨64, 64⟩ = 4160 ∧ fromRaw 64 4160 ⟨64, 64⟩ = some 4096 := by decide +kernel
-- zero-sized payload: data address = base + 8 = one past the count, still inside/at the end
example : asPtr 64 4096 ⟨0, 1⟩ = 4104 ∧ (arcInnerLayout 64 ⟨0, 1⟩).1 = ⟨8, 8⟩ := by decide +kernel
-- zero-sized, over-aligned
example : asPtr 64 4096 ⟨0, 32⟩ = 4128 ∧ (arcInnerLayout 64 ⟨0, 32⟩).1 = ⟨32, 32⟩ := by decide +kernel
-- odd size (3, align 1): offset 8, block padded to 16
example : asPtr 64 4096 ⟨3, 1⟩ = 4104 ∧ (arcInnerLayout 64 ⟨3, 1⟩).1 = ⟨16, 8⟩ := by decide +kernel
-- the hypothesis of the round-trip theorems holds for these
example : allocLayoutFor 64 ⟨64, 64⟩ = some ⟨128, 64⟩ ∧ allocLayoutFor 64 ⟨0, 32⟩ = some ⟨32, 32⟩ := by decide +kernel
-- slice round trip: [u16; 5] — Layout::for_value gives (10, 2), offset 8
example : fromRaw 64 (intoRaw 64 4096 (sliceLayout ⟨2, 2⟩ 5)) (sliceLayout ⟨2, 2⟩ 5) = some 4096 := by decide +kernel
-- 32-bit: offset 4 for u8, 16 for align-16
example : asPtr 32 4096 ⟨1, 1⟩ = 4100 ∧ asPtr 32 4096 ⟨16, 16⟩ = 4112 := by decide +kernel
-- the hypotheses of the general theorems are satisfiable by non-trivial shapes
example : (⟨64, 64⟩ : Layout).AlignIs 6 ∧ (⟨0, 32⟩ : Layout).AlignIs 5 ∧ (⟨3, 1⟩ : Layout).AlignIs 0 ∧ WordBits 64 3 ∧
    (arcInnerLayout 64 ⟨64, 64⟩).1.align ∣ 4096 ∧ (sliceLayout ⟨2, 2⟩ 5).WF ∧
    allocLayoutHeaderSlice 64 unitLayout ⟨2, 2⟩ 5 = some ⟨24, 8⟩ := by decide +kernel
-- a wrong offset_of_data (mutant: `size_of::<usize>()`) breaks the round trip exactly for align > 8
example : (4160 : Nat) - 8 ≠ 4096 := by decide +kernel

end C11
end LY
