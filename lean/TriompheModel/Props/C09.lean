import TriompheModel.Props.Gates
import TriompheModel.WM.ExampleConsume
import TriompheModel.Proofs.StepGraph
/-!
# C09 — unwrapping conserves the value: handed out once or kept, never both or neither

History half (any memory, any handle): `try_unique` / `try_unwrap` / `into_inner` move the value or
sole ownership out exactly when the gate reads 1, without running the destructor and with exactly one
deallocation; otherwise the very same handle value comes back and memory is unchanged.
Schedule half: `WM.consume_excludes_destroy`, `WM.consume_unique`, `WM.consume_after_all_former_sharers`
at the gate facts of this run: under every schedule the value is moved out to at most one thread, and
then it is never destroyed; if nobody takes it, C02 says it is destroyed exactly once.
-/
open Facts WM Gates
namespace C09

theorem obl_gate_try_unique : gateOk "Arc::try_unique" = true := gate_try_unique
theorem obl_gate_try_unwrap : gateOk "Arc::try_unwrap" = true := gate_try_unwrap
theorem obl_gate_unwrap_or_clone : gateOk "Arc::unwrap_or_clone" = true := gate_unwrap_or_clone
theorem obl_gate_try_from : gateOk "UniqueArc::try_from" = true := gate_try_from
theorem obl_verdict_is_eq_one : Generated.isUniqueGuard = ⟨.eq, some 1⟩ := Gates.obl_verdict_is_eq_one
theorem obl_dec_release : Generated.decOrd.isRel = true := Gates.obl_dec_release

variable {X : CountExec} {fenceOrd : Option MemOrd}

/-- **C09 (schedules): at most one winner.**  Two threads whose unwrapping gates both succeeded on
the same allocation are the same handle. -/
theorem C09_one_winner (hc : Consistent X) (hp : Protocol X Generated.decOrd fenceOrd)
    (hrw : CoRW X) (hvb : ViaBorn X) {l₁ l₂ : X.A} {h₁ h₂ : H} {o₁ o₂ : MemOrd} {rf₁ rf₂ : Option Nat}
    (c₁ : Consume X l₁ h₁ o₁ rf₁) (c₂ : Consume X l₂ h₂ o₂ rf₂) : h₁ = h₂ :=
  consume_unique hc hp hrw hvb c₁ c₂

/-- **C09 (schedules): moved out ⇒ not destroyed.** -/
theorem C09_moved_out_never_destroyed (hc : Consistent X) (hp : Protocol X Generated.decOrd fenceOrd)
    (hrw : CoRW X) (hvb : ViaBorn X) {l : X.A} {h : H} {o : MemOrd} {rf : Option Nat}
    (c : Consume X l h o rf) : ¬ ∃ f k, X.kind f = .destroy k := by
  rintro ⟨f, k, hf⟩
  exact consume_excludes_destroy hc hp hrw hvb c hf

/-- **C09 (schedules): the move-out is ordered after every former sharer's accesses.** -/
theorem C09_after_all_former_sharers (hc : Consistent X) (hp : Protocol X Generated.decOrd fenceOrd)
    (hrw : CoRW X) (hvb : ViaBorn X) {l : X.A} {h : H} {o : MemOrd} {rf : Option Nat}
    (c : Consume X l h o rf) :
    ∀ (a : X.A) (h' : H), (X.kind a).via = some h' → h' ≠ h →
      (h' = 0 ∨ ∃ j, rf = some j ∧ h' ∈ kids (X.ops.take (j+1))) → X.hb (.oth a) (.oth l) :=
  consume_after_all_former_sharers hc hp hrw hvb obl_dec_release c

/-- non-vacuity: the concrete execution of `WM/ExampleConsume.lean` is a `Consume` and meets every
hypothesis of the general theorems (stated at that execution's own orderings, so that this example
does not depend on the generated facts) -/
example : ¬ ∃ f k, ExC.exX.kind f = .destroy k := by
  rintro ⟨f, k, hf⟩
  exact consume_excludes_destroy ExC.ex_consistent ExC.ex_protocol ExC.ex_corw ExC.ex_viaborn ExC.ex_consume hf

open M1

/-- **declined: the very same handle comes back, memory untouched** -/
theorem C09_shared_returns_same (m : Mem) (a : HV) (hu : Arc.is_unique m a = false) :
    Arc.try_unique m a = .error a ∧ Arc.try_unwrap m a = (m, .error a) := by
  simp [Arc.try_unique, Arc.try_unwrap, hu]

/-- **sole owner: the value is moved out — no destructor event, exactly one deallocation, the block
is dead** -/
theorem C09_sole_owner_moves_out (m : Mem) (a : HV) (k : Block) (hu : Arc.is_unique m a = true)
    (hk : m.blocks[a.blk]? = some k) :
    ∃ m' v, Arc.try_unwrap m a = (m', .ok v) ∧ v = (k.elems.head?).join ∧
      m'.log = m.log ++ [.dealloc a.blk (a.ty.releaseLayout (viewLen m { a with kind := .uniq })).size
                                  (a.ty.releaseLayout (viewLen m { a with kind := .uniq })).align] ∧
      (m'.blocks[a.blk]?).map (·.live) = some false := by
  refine ⟨_, _, by rw [try_unwrap_eq, if_pos hu], ?_⟩
  simp only [UniqueArc.into_inner, hk, true_and]
  exact ⟨rfl, by simp [Mem.emit, Mem.upd, hk]⟩

end C09
