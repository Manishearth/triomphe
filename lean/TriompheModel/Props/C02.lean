import TriompheModel.WM.Unique
import TriompheModel.WM.Example
import TriompheModel.WM.Weak
import TriompheModel.Generated.Atomics
import TriompheModel.Props.Gates
import TriompheModel.WM.RelSeq
import TriompheModel.WM.WeakAcq
/-!
# C02 — concurrent clone/drop: one destroyer, ordered after every thread's last access

The general theorems live in `WM/Graph.lean` (`destroy_after_all`, `destroy_unique`); they are
parametric in the ordering of the decrement and of the load/fence that precedes destruction.
Here they are instantiated at what the translator read out of `/repo/src/arc.rs` **on this run**
(`Generated.*`).  Each `obl_*` theorem is a proof obligation on a generated constant, discharged by
evaluation in the kernel: if the source changes so that the obligation is false, this file stops compiling.
-/
open Facts WM
namespace C02

/-- the ordering of the load/fence between the decrement and `drop_slow`, if there is one -/
def fenceOrd : Option MemOrd := Generated.fence.map FenceKind.ord

/-- the decrement is (at least) a release -/
theorem obl_dec_release : Generated.decOrd.isRel = true := by decide +kernel

/-- an acquire precedes destruction: on the decrement itself, or on the following load/fence -/
def acqBeforeDestroy : Bool :=
  Generated.decOrd.isAcq || (match fenceOrd with | some o => o.isAcq | none => false)
theorem obl_acquire_before_destroy : acqBeforeDestroy = true := by decide +kernel

/-- `drop_inner` is: guarded decrement, then the fence (if any), then destruction, nothing else -/
def skeletonOk : Bool :=
  (Generated.dropSkeleton == [.decGuard, .fence, .destroy] && Generated.fence.isSome) ||
  (Generated.dropSkeleton == [.decGuard, .destroy] && Generated.fence.isNone)
theorem obl_skeleton : skeletonOk = true := by decide +kernel

/-- destruction happens exactly when the decrement observed 1 -/
theorem obl_dec_guard : Generated.decGuard = ⟨.ne, some 1⟩ := by decide +kernel

/-- every write / RMW / fence on a count in the crate is the increment in `Arc::clone` or belongs to
`Arc::drop_inner`; there is no other place that modifies a count -/
def censusOk : Bool :=
  Generated.unknownWrites.isEmpty &&
  Generated.sites.all (fun s => !s.kind.isWrite || s.debugOnly ||
    (s.fn_ == "Arc::clone" && s.kind == .fetchAdd) ||
    (s.fn_ == "Arc::drop_inner" && (s.kind == .fetchSub || s.kind == .fence)))
theorem obl_census : censusOk = true := by decide +kernel

/-- exactly one increment site and one decrement site -/
theorem obl_one_inc_one_dec :
    (Generated.sites.filter (fun s => s.kind == .fetchAdd && !s.debugOnly)).length = 1 ∧
    (Generated.sites.filter (fun s => s.kind == .fetchSub && !s.debugOnly)).length = 1 := by decide +kernel

/-- the other handle kinds clone and drop by funnelling into `Arc`'s clone / drop -/
def funnelsOk : Bool := Generated.funnels.all (fun f => f.ownAtomics == 0 && f.reaches)
theorem obl_funnels : funnelsOk = true := by decide +kernel

theorem acq_of_obl : Generated.decOrd.isAcq = true ∨ ∃ o, fenceOrd = some o ∧ o.isAcq = true := by
  refine (Bool.or_eq_true_iff.1 obl_acquire_before_destroy).imp_right fun h => ?_
  split at h
  next o ho => exact ⟨o, ho, h⟩
  next => cases h

variable {X : CountExec}

/-- **C02 (ordering).**  In every consistent execution of the accesses to one allocation, by any
number of threads, following the ownership protocol with the decrement ordering and fence found in
the source: the decrement that triggers destruction is the last RMW on the count ever, and every
payload access and count access made through any handle, and every other clone/drop, happens-before
the destruction (destructor + deallocation). -/
theorem C02_destroy_after_all (hc : Consistent X) (hp : Protocol X Generated.decOrd fenceOrd)
    {f : X.A} {k : Nat} (hf : X.kind f = .destroy k) :
    k + 1 = X.ops.length ∧
    (∀ a h, (X.kind a).via = some h → X.hb (.oth a) (.oth f)) ∧
    (∀ i, i < X.ops.length → i ≠ k → X.hb (.rmw i) (.oth f)) :=
  destroy_after_all hc hp obl_dec_release acq_of_obl hf

/-- **C02 (exactly one destroyer).** -/
theorem C02_destroy_unique (hc : Consistent X) (hp : Protocol X Generated.decOrd fenceOrd)
    {f₁ f₂ : X.A} {k₁ k₂ : Nat} (h₁ : X.kind f₁ = .destroy k₁) (h₂ : X.kind f₂ = .destroy k₂) :
    f₁ = f₂ :=
  destroy_unique hc hp h₁ h₂

/-- **C02 (nothing after the release of the memory).**  No access through a handle and no RMW on
the count is ordered after the destruction: anything that is `hb`-after `f` would, with
`C02_destroy_after_all`, be `hb`-after itself. -/
theorem C02_nothing_after_destroy (hc : Consistent X) (hp : Protocol X Generated.decOrd fenceOrd)
    {f : X.A} {k : Nat} (hf : X.kind f = .destroy k) :
    (∀ a h, (X.kind a).via = some h → ¬ X.hb (.oth f) (.oth a)) ∧
    (∀ i, i < X.ops.length → ¬ X.hb (.oth f) (.rmw i)) :=
  ⟨fun a h hv hfa => hc.hb_irrefl _ (hc.hb_trans ((C02_destroy_after_all hc hp hf).2.1 a h hv) hfa),
   fun _ hi hfi => hc.hb_irrefl _ (hc.hb_trans (rmw_before_destroy hc hp obl_dec_release acq_of_obl hf hi) hfi)⟩

/-- Non-vacuity: a concrete two-thread execution (clone, hand-over, read ‖ read, drop ‖ drop,
acquire load, destroy) is consistent and follows the protocol, and the theorem orders thread B's
read before the destruction performed by thread A. -/
example : exX.hb (.oth (1 : EA)) (.oth (3 : EA)) :=
  (destroy_after_all ex_consistent ex_protocol rfl (Or.inr ⟨_, rfl, rfl⟩) (f := (3 : EA)) (k := 2) rfl).2.1
    (1 : EA) 1 rfl

/-- Necessity of the release ordering (model-level counterexample used in replay files): with a
relaxed decrement there is a consistent, protocol-following execution in which a payload read and
the destruction are unordered — a data race. -/
theorem C02_release_needed :
    Consistent Weak.exX ∧ Protocol Weak.exX .relaxed (some .acquire) ∧
    ¬ Weak.exX.hb (.oth (1 : Weak.EA)) (.oth (3 : Weak.EA)) ∧
    ¬ Weak.exX.hb (.oth (3 : Weak.EA)) (.oth (1 : Weak.EA)) :=
  ⟨Weak.ex_consistent, Weak.ex_protocol, Weak.release_needed.1, Weak.release_needed.2⟩

/-- Necessity of the acquire before destruction: release decrements but a Relaxed load before
`drop_slow` admit a consistent, protocol-following execution with the same race. -/
theorem C02_acquire_needed :
    Consistent WeakAcq.exX ∧ Protocol WeakAcq.exX .release (some .relaxed) ∧
    ¬ WeakAcq.exX.hb (.oth (1 : WeakAcq.EA)) (.oth (3 : WeakAcq.EA)) ∧
    ¬ WeakAcq.exX.hb (.oth (3 : WeakAcq.EA)) (.oth (1 : WeakAcq.EA)) :=
  ⟨WeakAcq.ex_consistent, WeakAcq.ex_protocol, WeakAcq.acquire_needed.1, WeakAcq.acquire_needed.2⟩

/-- the same under the *primitive* statement of synchronises-with (release sequences as in
[intro.races]/5, RMW atomicity; `WM/RelSeq.lean` derives the index form from it) -/
theorem C02_destroy_after_all_prim (hc : ConsistentPrim X) (hp : Protocol X Generated.decOrd fenceOrd)
    {f : X.A} {k : Nat} (hf : X.kind f = .destroy k) :
    k + 1 = X.ops.length ∧
    (∀ a h, (X.kind a).via = some h → X.hb (.oth a) (.oth f)) ∧
    (∀ i, i < X.ops.length → i ≠ k → X.hb (.rmw i) (.oth f)) :=
  destroy_after_all_prim hc hp obl_dec_release acq_of_obl hf

/-! ## the other way memory is released: moving the value out

`try_unwrap` / `try_unique`+`into_inner` / `unwrap_or_clone` free the block WITHOUT a decrement, on the
strength of their uniqueness gate.  The property's "every access … happens-before the release of the
memory" therefore also needs those gates to be Acquire loads compared with 1. -/

theorem obl_consuming_gates_acquire :
    (Gates.gateOk "Arc::try_unique" && Gates.gateOk "Arc::try_unwrap" && Gates.gateOk "Arc::unwrap_or_clone" &&
     Gates.gateOk "UniqueArc::try_from") = true := by
  rw [Gates.gate_try_unique, Gates.gate_try_unwrap, Gates.gate_unwrap_or_clone, Gates.gate_try_from]; rfl

/-- **C02 (move-out path).**  When a consuming gate succeeded through handle `h`, every access ever
made through any other handle that existed where the gate's load read from happens-before that load —
hence before the value is moved out and the block freed; the modification order ends where the load
read from (`WM.consume_is_end`: no RMW on the count follows), and there is no destruction. -/
theorem C02_move_out_after_all (hc : Consistent X) (hp : Protocol X Generated.decOrd fenceOrd)
    (hrw : CoRW X) (hvb : ViaBorn X) {l : X.A} {h : H} {o : MemOrd} {rf : Option Nat}
    (c : Consume X l h o rf) :
    (∀ (a : X.A) (h' : H), (X.kind a).via = some h' → h' ≠ h →
      (h' = 0 ∨ ∃ j, rf = some j ∧ h' ∈ kids (X.ops.take (j+1))) → X.hb (.oth a) (.oth l)) ∧
    X.ops.length ≤ prefixLen rf ∧ (¬ ∃ f k, X.kind f = .destroy k) :=
  ⟨consume_after_all_former_sharers hc hp hrw hvb obl_dec_release c,
   (consume_is_end hc hp hrw hvb c).1,
   fun ⟨_, _, hf⟩ => consume_excludes_destroy hc hp hrw hvb c hf⟩

end C02
