import TriompheModel.Props.C03Sched
import TriompheModel.WM.Ownership
/-!
# C03 / C08 (schedule half) stated about PROGRAMS

`Gates.exclusive_after_verdict` and `C03_later_sharers_after_write` with `Protocol`, `ViaBorn` and `MutExcl` supplied by
`WM/Ownership.lean` for every run of the operational ownership semantics: what is left as hypothesis is the memory-model fragment
(`Consistent`, `CoRW`) and, for the later sharers, that the program issues no clone of the gate's handle between the gate's load
and the write (what `&mut` exclusivity means for a program).
-/
open Facts WM WM.Own Gates
namespace C03

variable {fenceOrd : Option MemOrd} (r : Run Generated.decOrd fenceOrd)
variable {hb : Ev (Fin r.final.kinds.length) → Ev (Fin r.final.kinds.length) → Prop}

/-- **former sharers, in every program**: when a gate `name` (every load it reaches is Acquire, by the obligation on the facts of
this run) sees the count 1 through `h`, every access made through another handle that existed where the load read from
happens-before the gate's load -/
theorem C03_former_sharers_in_every_program {name : String} (hg : gateOk name = true)
    (hpo : ∀ x y, (lift x, lift y) ∈ r.final.po → hb x y)
    (hsw : ∀ x y, (lift x, lift y) ∈ r.final.sw → hb x y)
    (htrans : ∀ x y z, hb x y → hb y z → hb x z)
    (hc : Consistent (execOf r.final hb)) (hrw : CoRW (execOf r.final hb))
    {l : Fin r.final.kinds.length} {h : H} {o : MemOrd} {rf : Option Nat}
    (hl : (execOf r.final hb).kind l = .load h o rf)
    (ho : ∀ g ∈ Generated.gates, g.name = name → o ∈ g.loads)
    (hone : valRead r.final.ops rf = 1) :
    ∀ (a : Fin r.final.kinds.length) (h' : H), ((execOf r.final hb).kind a).via = some h' → h' ≠ h →
      (h' = 0 ∨ ∃ j, rf = some j ∧ h' ∈ kids (r.final.ops.take (j+1))) → hb (.oth a) (.oth l) :=
  exclusive_after_verdict hg hc (protocol_of_run r hb hpo hsw htrans) hrw (viaBorn_of_run r hb hpo hsw htrans) hl ho hone

/-- **later sharers, in every program** that issues no clone of `h` between the gate's load `l` and the granted write `w` -/
theorem C03_later_sharers_in_every_program
    (hpo : ∀ x y, (lift x, lift y) ∈ r.final.po → hb x y)
    (hsw : ∀ x y, (lift x, lift y) ∈ r.final.sw → hb x y)
    (htrans : ∀ x y z, hb x y → hb y z → hb x z)
    (hc : Consistent (execOf r.final hb)) (hrw : CoRW (execOf r.final hb))
    {l w : Fin r.final.kinds.length} {h : H} {o : MemOrd} {rf : Option Nat}
    (hl : (execOf r.final hb).kind l = .load h o rf)
    (hw : ((execOf r.final hb).kind w).via = some h)
    (hno : ∀ (i : Nat) (ch : H), r.final.ops[i]? = some (Op.inc ch h) → i < stamp r.final l ∨ stamp r.final w ≤ i)
    (hone : valRead r.final.ops rf = 1) :
    ∀ (a : Fin r.final.kinds.length) (h' : H), ((execOf r.final hb).kind a).via = some h' → h' ≠ 0 →
      (∀ i s, r.final.ops[i]? = some (Op.inc h' s) → Beyond rf i) → hb (.oth w) (.oth a) :=
  C03_later_sharers_after_write hc (protocol_of_run r hb hpo hsw htrans) hrw (viaBorn_of_run r hb hpo hsw htrans) hl hone
    (mutExcl_of_run r hb hpo hsw htrans (by rw [hl]; rfl) hw hno)

end C03
