import TriompheModel.Model.Ops
/-!
# C12 — an ArcUnion remembers which variant it holds and treats it as that type (history half)

The arithmetic half (bit 0 of every data address is free; tag / untag) is Props/C12Arith.lean over
the layout model.  Here: what the union operations of M1 do, for every memory and handle.
-/
namespace M1
namespace C12

/-- the variant is what the constructor was, and the union refers to the very same block, at the
data address of the `Arc` it was made from -/
theorem C12_variant_remembered (m : Mem) (a : HV) :
    (ArcUnion.from_first m a).kind = .unionA ∧ (ArcUnion.from_second m a).kind = .unionB ∧
    (ArcUnion.from_first m a).blk = a.blk ∧ (ArcUnion.from_second m a).blk = a.blk ∧
    (ArcUnion.from_first m a).ty = a.ty ∧ (ArcUnion.from_second m a).ty = a.ty ∧
    (ArcUnion.from_first m a).off = Arc.as_ptr_off m a ∧ (ArcUnion.from_second m a).off = Arc.as_ptr_off m a :=
  ⟨rfl, rfl, rfl, rfl, rfl, rfl, rfl, rfl⟩

/-- `borrow()` yields the original data address (tag stripped) with the variant's type -/
theorem C12_borrow_is_data_ptr (m : Mem) (a : HV) :
    ArcUnion.borrow (ArcUnion.from_first m a) = Arc.into_raw m a ∧
    ArcUnion.borrow (ArcUnion.from_second m a) = Arc.into_raw m a :=
  ⟨rfl, rfl⟩

/-- **clone moves the count of that block by one and keeps the variant** -/
theorem C12_clone (m : Mem) (u : HV) :
    (ArcUnion.clone m u).1 = incr m u.blk ∧ (ArcUnion.clone m u).2.blk = u.blk ∧
    (ArcUnion.clone m u).2.ty = u.ty ∧
    (u.kind = .unionA → (ArcUnion.clone m u).2.kind = .unionA) ∧
    (u.kind = .unionB → (ArcUnion.clone m u).2.kind = .unionB) := by
  -- the new word is `from_first` / `from_second` (by the variant) of the `Arc` that `clone_arc` hands out
  simp only [ArcUnion.clone, ArcBorrow.clone_arc, Arc.clone]
  refine ⟨rfl, ?_, ?_, fun h => ?_, fun h => ?_⟩
  · split <;> rfl
  · split <;> rfl
  · rw [if_pos h]; rfl
  · rw [if_neg (by rw [h]; decide)]; rfl

/-- **drop releases that block as a handle of the variant's type**: one `drop_inner` on the block
with the variant's view (hence that type's destructor and layout) -/
theorem C12_drop (m : Mem) (u : HV) :
    ArcUnion.drop m u = decr m u.blk u.ty (viewLen m (Arc.from_raw m (ArcUnion.borrow u))) :=
  rfl

/-- the two variants have different payload types in the model (Tracked 8/4 vs TrackedB 16/16): the
release layout is the variant's own -/
theorem C12_release_layout_differs : Ty.sized.releaseLayout 1 ≠ Ty.sizedB.releaseLayout 1 := by decide +kernel

end C12
end M1
