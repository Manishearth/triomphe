import TriompheModel.Props.Gates
import TriompheModel.WM.ExGateRelaxed
import TriompheModel.WM.ExampleConsume
/-!
# C03, schedule half — mutable access is ordered after all former sharers

For every API that grants mutable access on the basis of uniqueness, the translator resolves the
call chain down to the count load; the obligations below say each of them is gated by an Acquire load
compared with 1.  `C03_exclusive_after_verdict` is then the weak-memory theorem
`WM.unique_verdict_exclusive` at those generated facts.
-/
open Facts WM Gates
namespace C03

theorem obl_gate_is_unique : gateOk "Arc::is_unique" = true := gate_is_unique
theorem obl_gate_get_mut : gateOk "Arc::get_mut" = true := gate_get_mut
theorem obl_gate_get_unique : gateOk "Arc::get_unique" = true := gate_get_unique
theorem obl_gate_try_unique : gateOk "Arc::try_unique" = true := gate_try_unique
theorem obl_gate_try_as_unique : gateOk "Arc::try_as_unique" = true := gate_try_as_unique
theorem obl_gate_try_unwrap : gateOk "Arc::try_unwrap" = true := gate_try_unwrap
theorem obl_gate_try_from : gateOk "UniqueArc::try_from" = true := gate_try_from
theorem obl_gate_make_mut : gateOk "Arc::make_mut" = true := gate_make_mut
theorem obl_gate_make_unique : gateOk "Arc::make_unique" = true := gate_make_unique
theorem obl_gate_write : gateOk "Arc::write" = true := gate_write
theorem obl_gate_as_mut_slice : gateOk "Arc::as_mut_slice" = true := gate_as_mut_slice
theorem obl_gate_must_be_unique : gateOk "must_be_unique" = true := gate_must_be_unique
theorem obl_verdict_is_eq_one : Generated.isUniqueGuard = ⟨.eq, some 1⟩ := Gates.obl_verdict_is_eq_one
theorem obl_dec_release : Generated.decOrd.isRel = true := Gates.obl_dec_release
theorem obl_no_weak_gate : Generated.gates.all (fun g => g.loads.all (·.isAcq)) = true := Gates.obl_no_weak_gate

variable {X : CountExec} {fenceOrd : Option MemOrd}

/-- **C03 (schedules).**  In every consistent execution, when `get_mut` (likewise every gate above, by
`Gates.exclusive_after_verdict` at its obligation) sees the count 1 through handle `h`, every access
other threads made through handles they have since released happens-before the gate's load, so
before the mutable access it grants: two threads never access the value concurrently with one of
them writing. -/
theorem C03_exclusive_after_verdict (hc : Consistent X) (hp : Protocol X Generated.decOrd fenceOrd)
    (hrw : CoRW X) (hvb : ViaBorn X) {l : X.A} {h : H} {o : MemOrd} {rf : Option Nat}
    (hl : X.kind l = .load h o rf)
    (ho : ∀ g ∈ Generated.gates, g.name = "Arc::get_mut" → o ∈ g.loads)
    (hone : valRead X.ops rf = 1) :
    ∀ (a : X.A) (h' : H), (X.kind a).via = some h' → h' ≠ h →
      (h' = 0 ∨ ∃ j, rf = some j ∧ h' ∈ kids (X.ops.take (j+1))) → X.hb (.oth a) (.oth l) :=
  exclusive_after_verdict obl_gate_get_mut hc hp hrw hvb hl ho hone

/-- **C03 (schedules), both directions.**  No access through any other handle is concurrent with the
write a successful gate grants: former sharers' accesses happen-before it (`C03_exclusive_after_verdict`),
and every handle that comes into existence afterwards descends from the gate's own handle and is
born after the write (`WM.later_births_after_write`), so its accesses happen-after it. -/
theorem C03_no_concurrent_access {name : String} (hg : gateOk name = true)
    (hc : Consistent X) (hp : Protocol X Generated.decOrd fenceOrd)
    (hrw : CoRW X) (hvb : ViaBorn X) {l w : X.A} {h : H} {o : MemOrd} {rf : Option Nat}
    (hl : X.kind l = .load h o rf) (ho : ∀ g ∈ Generated.gates, g.name = name → o ∈ g.loads)
    (hone : valRead X.ops rf = 1) (hlw : X.hb (.oth l) (.oth w)) (hex : MutExcl X l w h) :
    ∀ (a : X.A) (h' : H), (X.kind a).via = some h' → h' ≠ h →
      X.hb (.oth a) (.oth w) ∨ X.hb (.oth w) (.oth a) :=
  no_concurrent_access_after_verdict hg hc hp hrw hvb hl ho hone hlw hex

/-- later sharers: a handle created beyond the point the gate's load read from sees the write -/
theorem C03_later_sharers_after_write (hc : Consistent X) (hp : Protocol X Generated.decOrd fenceOrd)
    (hrw : CoRW X) (hvb : ViaBorn X) {l w : X.A} {h : H} {o : MemOrd} {rf : Option Nat}
    (hl : X.kind l = .load h o rf) (hone : valRead X.ops rf = 1) (hex : MutExcl X l w h) :
    ∀ (a : X.A) (h' : H), (X.kind a).via = some h' → h' ≠ 0 →
      (∀ i s, X.ops[i]? = some (Op.inc h' s) → Beyond rf i) → X.hb (.oth w) (.oth a) :=
  later_sharers_after_write hc hp hrw hvb hl hone hex

/-- non-vacuity: the concrete two-thread execution of `WM/ExampleConsume.lean` (clone, hand over,
read ‖ —, drop, acquire gate load reading 1) meets every hypothesis -/
example : ExC.exX.hb (.oth (0 : ExC.EA)) (.oth (1 : ExC.EA)) :=
  unique_verdict_exclusive ExC.ex_consistent ExC.ex_protocol ExC.ex_corw ExC.ex_viaborn rfl
    (l := (1 : ExC.EA)) rfl rfl (by decide) (0 : ExC.EA) 1 rfl (by decide) (Or.inr ⟨1, rfl, by decide⟩)

/-- Necessity of the Acquire in the gate (model-level witness printed in replay files): a Relaxed gate
load may read 1 while another thread's payload access is not ordered before it. -/
theorem C03_acquire_needed :
    Consistent ExGateRelaxed.exX ∧ Protocol ExGateRelaxed.exX .release (some .acquire) ∧
    CoRW ExGateRelaxed.exX ∧ ViaBorn ExGateRelaxed.exX ∧
    valRead ExGateRelaxed.exX.ops (some 1) = 1 ∧
    ¬ ExGateRelaxed.exX.hb (.oth (0 : ExGateRelaxed.EA)) (.oth (1 : ExGateRelaxed.EA)) :=
  ⟨ExGateRelaxed.ex_consistent, ExGateRelaxed.ex_protocol, ExGateRelaxed.ex_corw, ExGateRelaxed.ex_viaborn,
   ExGateRelaxed.gate_acquire_needed.1, ExGateRelaxed.gate_acquire_needed.2.1⟩

end C03
