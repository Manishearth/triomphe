import TriompheModel.Proofs.AutoTraits
import TriompheModel.Generated.Traits
import TriompheModel.Generated.Signatures
/-!
# C13 — thread-safety and borrow lifetimes are enforced by the type system

The theorems are about the model M7 (`Model/AutoTraits.lean`: rustc's auto-trait resolution and
lifetime elision / signature-level outlives) **instantiated at the tables the translator read out of
`<repo>/src` on this run** (`Generated.structs`, `Generated.autoImpls`, `Generated.sigs`).  The tables
are finite and regenerated on every run, so evaluation in the kernel over them is a legitimate proof; if a
bound on an `unsafe impl Send/Sync` is relaxed, a lifetime on a borrow accessor widened, or a callback bound
stops being higher-ranked, the corresponding evaluation gives `false` and this file stops
compiling.  The quantified statements ("for every class assignment", "for every extracted
signature") follow from the table checks by the general lemmas of `Proofs/AutoTraits.lean`.

"For all payload types `T`" is covered by `C13_class_abstraction_complete`: the extracted bound
language cannot tell two types of the same `(send?, sync?, sized?)` class apart, so the 8 classes (64
assignments for two-parameter kinds) are exhaustive.

Lifetime half is PARTIAL by design: M7 models elision and the outlives relation a signature implies,
not the borrow checker.  The rustc probes (`vlib/props/c13.py`) tie both halves to the compiler.
-/
open FactsTraits AutoTraits
namespace C13

/-- the tables of this run -/
def T : Tables := ⟨Generated.structs, Generated.autoImpls⟩

def kindPresent (K : String) : Bool := arity T K != 0

/-! ## auto traits -/

/-- every `Send`/`Sync` impl in the crate has the understood shape: `unsafe impl<P..> Tr for K<P..>`
with bounds only from {`Send`, `Sync`, `?Sized`, `Sized`, `P: 'l` for a lifetime argument of `K`}, no
negative impls, no `where` predicates on compound types -/
theorem C13_bound_language_ok : boundLanguageOk T = true := by decide +kernel

/-- Box-like impls are only allowed on `UniqueArc`; every other type with an explicit impl must be one
of the shared handle kinds checked below (a new `unsafe impl Send for X` on an unlisted type fails here) -/
def explicitOnlyOnKnown : Bool :=
  Generated.autoImpls.all (fun i =>
    ["ArcInner", "Arc", "ThinArc", "OffsetArc", "ArcBorrow", "ArcUnion", "UniqueArc"].contains i.selfTy)
theorem C13_explicit_impls_only_on_handles : explicitOnlyOnKnown = true := by decide +kernel

theorem C13_Arc_table : (kindPresent "Arc" && hasExplicit T "Arc" && sharedKindOk T "Arc") = true := by decide +kernel
theorem C13_ArcInner_table : (kindPresent "ArcInner" && hasExplicit T "ArcInner" && sharedKindOk T "ArcInner") = true := by decide +kernel
theorem C13_ThinArc_table : (kindPresent "ThinArc" && hasExplicit T "ThinArc" && sharedKindOk T "ThinArc") = true := by decide +kernel
theorem C13_OffsetArc_table : (kindPresent "OffsetArc" && hasExplicit T "OffsetArc" && sharedKindOk T "OffsetArc") = true := by decide +kernel
theorem C13_ArcBorrow_table : (kindPresent "ArcBorrow" && hasExplicit T "ArcBorrow" && sharedKindOk T "ArcBorrow") = true := by decide +kernel
theorem C13_ArcUnion_table : (kindPresent "ArcUnion" && hasExplicit T "ArcUnion" && sharedKindOk T "ArcUnion") = true := by decide +kernel
/-- no explicit impl: resolved structurally through `ArcBorrow` -/
theorem C13_ArcUnionBorrow_table : (kindPresent "ArcUnionBorrow" && sharedKindOk T "ArcUnionBorrow") = true := by decide +kernel
theorem C13_UniqueArc_table : (kindPresent "UniqueArc" && hasExplicit T "UniqueArc" && uniqueKindOk T "UniqueArc") = true := by decide +kernel
/-- the header types are plain data: no explicit impl, component-wise -/
theorem C13_header_types_table :
    (plainKindOk T "HeaderSlice" && plainKindOk T "HeaderWithLength" &&
     plainKindOk T "HeaderSliceWithLengthProtected") = true := by decide +kernel

/-- the shared handle kinds of the property statement -/
def sharedKinds : List String := ["Arc", "ThinArc", "OffsetArc", "ArcBorrow", "ArcUnion", "ArcInner", "ArcUnionBorrow"]

theorem sharedKinds_ok : sharedKinds.all (fun K => kindPresent K && sharedKindOk T K) = true := by
  have h1 := C13_Arc_table; have h2 := C13_ThinArc_table; have h3 := C13_OffsetArc_table
  have h4 := C13_ArcBorrow_table; have h5 := C13_ArcUnion_table; have h6 := C13_ArcInner_table
  have h7 := C13_ArcUnionBorrow_table
  simp only [Bool.and_eq_true] at h1 h2 h3 h4 h5 h6 h7
  simp [sharedKinds, h1, h2, h3, h4, h5, h6, h7]

/-- **Send/Sync table.**  For each of Arc, ThinArc, OffsetArc, ArcBorrow, ArcUnion (and ArcInner,
ArcUnionBorrow) and **every** assignment of classes to its type parameters that the struct
declaration admits: the handle is `Send` iff it is `Sync` iff every payload type is both `Send` and
`Sync`. -/
theorem C13_send_sync_table (K : String) (hK : K ∈ sharedKinds) (cs : List Class)
    (hlen : cs.length = arity T K) (hwf : wfArgs T K cs = true) :
    isSend T K cs = cs.all (fun c => c.send && c.sync) ∧
    isSync T K cs = cs.all (fun c => c.send && c.sync) := by
  have h := List.all_eq_true.mp sharedKinds_ok K hK
  rw [Bool.and_eq_true] at h
  exact shared_of_ok T K h.2 cs hlen hwf

/-- **UniqueArc** follows `Box`: `Send` iff the payload is `Send`, `Sync` iff the payload is `Sync`,
for every class (sized or not). -/
theorem C13_unique_send_sync (c : Class) :
    isSend T "UniqueArc" [c] = c.send ∧ isSync T "UniqueArc" [c] = c.sync := by
  have h := C13_UniqueArc_table
  simp only [Bool.and_eq_true] at h
  have hw : wfArgs T "UniqueArc" [c] = true :=
    List.all_eq_true.mp (by decide +kernel : allClasses.all (fun c => wfArgs T "UniqueArc" [c]) = true) c
      (mem_allClasses c)
  have := unique_of_ok T "UniqueArc" h.2 [c] (by show 1 = _; decide +kernel) hw
  simpa using this

/-- the one-parameter shared kinds, unfolded: e.g. `Arc<T>: Send ⇔ T: Send + Sync` for every class of
`T` (including unsized `T`, which `Arc`, `ArcBorrow`, `ArcInner` admit) -/
theorem C13_Arc_send_sync (c : Class) :
    isSend T "Arc" [c] = (c.send && c.sync) ∧ isSync T "Arc" [c] = (c.send && c.sync) := by
  have hw : wfArgs T "Arc" [c] = true :=
    List.all_eq_true.mp (by decide +kernel : allClasses.all (fun c => wfArgs T "Arc" [c]) = true) c
      (mem_allClasses c)
  have := C13_send_sync_table "Arc" (by decide) [c] (by show 1 = _; decide +kernel) hw
  simpa using this

/-- **Completeness of the class abstraction** (general, not table-specific): for any bound set in the
extracted fragment and any type — modelled as an arbitrary record of its observable capabilities,
`AbsType` — the bound set's truth on the type equals the model's verdict on the type's class. -/
theorem C13_class_abstraction_complete (lts : List String) (bs : List Bound)
    (hfrag : bs.all (Bound.classOnly lts) = true) (t : AbsType) (hwf : t.wfFor lts) :
    t.satisfiesAll bs = boundsHold lts bs t.cls :=
  class_abstraction_complete lts bs hfrag t hwf

/-- … and every bound set that actually occurs in the generated impl table is in that fragment -/
theorem C13_generated_bounds_in_fragment :
    ∀ i ∈ Generated.autoImpls, ∀ p ∈ typeParams i.params, p.bounds.all (Bound.classOnly i.selfLts) = true := by
  intro i hi p hp
  have h := List.all_eq_true.mp C13_bound_language_ok i hi
  unfold implWellFormed at h
  simp only [Bool.and_eq_true] at h
  exact List.all_eq_true.mp h.2 p hp

/-- generic instantiation: bound sets are monotone in the class, so `fn f<T: B>()` is decided at the
least class satisfying `B` -/
theorem C13_bounds_monotone (lts : List String) (bs : List Bound) (c d : Class) (h : Class.le c d)
    (hc : boundsHold lts bs c = true) : boundsHold lts bs d = true := by
  rw [boundsHold, Bool.and_eq_true, Bool.or_eq_true, List.all_eq_true] at hc ⊢
  exact ⟨hc.1.imp id h.2.2, fun b hb => boundHolds_mono lts c d h b (hc.2 b hb)⟩

/-! ## ownership and lifetime markers -/

/-- Each owning handle mentions every type parameter in an *owning* field type (`PhantomData<T>`,
`PhantomData<(H, T)>`, `T` itself, or `Arc<T>` inside `UniqueArc`), so drop-check and variance treat the
handle as an owner of its payload: a handle cannot outlive data its payload borrows. -/
theorem C13_ownership_markers :
    (ownsAll T "Arc" && ownsAll T "ThinArc" && ownsAll T "OffsetArc" && ownsAll T "ArcUnion" &&
     ownsAll T "UniqueArc" && ownsAll T "ArcInner") = true := by decide +kernel

/-- `ArcBorrow<'a, T>` carries `PhantomData<&'a T>`; `ArcUnionBorrow<'a, A, B>` is an enum of
`ArcBorrow<'a, _>` at its own lifetime. -/
theorem C13_borrow_markers :
    (borrowMarker T "ArcBorrow" && borrowEnumMarker T "ArcUnionBorrow") = true := by decide +kernel

/-! ## borrow signatures -/

theorem C13_sigs_table : sigsBounded Generated.sigs = true := by decide +kernel
theorem C13_callbacks_table : callbacksHigherRanked Generated.sigs = true := by decide +kernel

/-- **Every extracted borrow-returning signature that safe client code can call** (`pub`, not
`unsafe`; `Deref`/`DerefMut`/`Borrow`/`AsRef` methods included) ties every region of its return type
to the `&self` / `&mut self` / `this: &Self` borrow or to a lifetime parameter of the `Self` type; none
is `'static` over the payload and none is a fresh method-level lifetime. -/
theorem C13_borrow_regions_bounded (s : Sig) (hs : s ∈ Generated.sigs)
    (hp : s.isPub = true) (hu : s.isUnsafe = false) : regionBounded s = true :=
  bounded_of_ok Generated.sigs C13_sigs_table s hs hp hu

/-- **Every callback bound** of such a function (`with_arc`, `with_arc_mut`, `with_raw_offset_arc`, …)
is higher-ranked in the region of the reference handed to the callback. -/
theorem C13_callbacks_higher_ranked (s : Sig) (hs : s ∈ Generated.sigs)
    (hp : s.isPub = true) (hu : s.isUnsafe = false) (cb : Callback) (hcb : cb ∈ s.callbacks) :
    higherRanked cb = true :=
  hr_of_ok Generated.sigs C13_callbacks_table s hs hp hu cb hcb

/-- the accessors the property names are among the extracted signatures (so the two theorems above
are not vacuous about them), and there is at least one callback-taking function -/
def namedAccessors : List String :=
  ["Arc::deref", "Arc::borrow_arc", "Arc::get_mut", "Arc::make_mut", "ArcBorrow::get", "ArcBorrow::deref"]
theorem C13_named_accessors_extracted :
    (namedAccessors.all (fun k => Generated.sigs.any (fun s => s.key == k && s.obligated && !s.outRegions.isEmpty)) &&
     Generated.sigs.any (fun s => s.obligated && s.callbacks.any (fun cb => !cb.argRegions.isEmpty))) = true := by
  decide +kernel

/-- **Unsizing a borrow keeps its region** (feature `unsize`): the safe `CoerceUnsize::unsize` returns whatever
`CoerciblePtr::replace_ptr` returns; for `ArcBorrow<'lt, T>` that output must stay tied to `'lt` (a Self lifetime), so
the coerced `ArcBorrow<'lt, dyn Trait>` / `ArcBorrow<'lt, [T]>` cannot outlive the Arc it was borrowed from.  The impl
is among the extracted signatures, is obligated although the trait method is `unsafe`, and is bounded. -/
theorem C13_unsize_keeps_region :
    Generated.sigs.any (fun s => s.key == "ArcBorrow::replace_ptr" && s.trait_ == "CoerciblePtr" && s.obligated &&
      !s.outRegions.isEmpty && regionBounded s) = true ∧
    (Generated.sigs.filter (fun s => s.trait_ == "CoerciblePtr")).all (fun s => s.obligated && regionBounded s) = true := by
  decide +kernel

/-! ## non-vacuity: the checks accept and reject -/

-- witnesses of each class at the generated tables
example : isSend T "Arc" [⟨true, true, true⟩] = true := by decide +kernel
example : isSend T "Arc" [⟨true, false, true⟩] = false := by decide +kernel      -- `Arc<Cell<u32>>` is not Send
example : isSync T "Arc" [⟨false, true, true⟩] = false := by decide +kernel
example : isSend T "Arc" [⟨true, true, false⟩] = true := by decide +kernel       -- `Arc<[u32]>`
example : isSend T "UniqueArc" [⟨true, false, true⟩] = true := by decide +kernel -- `UniqueArc<Cell<u32>>` is Send …
example : isSync T "UniqueArc" [⟨true, false, true⟩] = false := by decide +kernel -- … but not Sync
example : isSend T "ThinArc" [⟨true, true, true⟩, ⟨true, false, true⟩] = false := by decide +kernel
example : isSend T "ArcUnionBorrow" [⟨true, true, true⟩, ⟨true, true, true⟩] = true := by decide +kernel
example : wfArgs T "OffsetArc" [⟨true, true, false⟩] = false := by decide +kernel  -- `OffsetArc<[u32]>` is not a type

/-- a mutated table (the `Sync` bound dropped from `impl Send for Arc`) is rejected by the same check -/
def mutantTables : Tables :=
  ⟨Generated.structs,
   Generated.autoImpls.map (fun i =>
     if i.selfTy == "Arc" && i.trait_ == .send then
       { i with params := [⟨"T", .type, [.send, .qsized]⟩] } else i)⟩
example : sharedKindOk mutantTables "Arc" = false := by decide +kernel
example : isSend mutantTables "Arc" [⟨true, false, true⟩] = true := by decide +kernel

/-- without any explicit impl the raw pointer makes the handle neither `Send` nor `Sync` -/
example : isSend ⟨Generated.structs, []⟩ "Arc" [⟨true, true, true⟩] = false := by decide +kernel

-- an arbitrary type meeting the hypotheses of the abstraction lemma, distinguishable from its class
def witnessTy : AbsType := ⟨true, false, true, fun l => l == "a", false, fun s => s == "Clone"⟩
example : witnessTy.wfFor ["a"] := by
  intro l h
  simp only [List.contains_cons, List.contains_nil, Bool.or_false] at h
  simpa [witnessTy] using h
example : witnessTy.satisfiesAll [.send, .qsized, .outlives "a"] = true := by decide +kernel
example : witnessTy.satisfiesAll [.send, .sync] = false := by decide +kernel

-- signatures: the bad cases of the property, and harmless rewrites of the good ones
def sigBase : Sig :=
  { file := "x.rs", line := 1, key := "Arc::borrow_arc", selfTy := "Arc<T>", trait_ := "", isPub := true, isUnsafe := false,
    implLts := [], selfLts := [], fnLts := [], outlives := [], recv := .refSelf, recvRegion := .elided,
    otherInputs := [], outRegions := [⟨.elided, true, "ArcBorrow<'_,T>"⟩], outShape := "ArcBorrow<'_,T>", callbacks := [] }
example : regionBounded sigBase = true := by decide +kernel
/-- `pub fn borrow_arc<'a>(&self) -> ArcBorrow<'a, T>`: a fresh method-level lifetime -/
example : regionBounded { sigBase with fnLts := ["a"], outRegions := [⟨.named "a", true, "ArcBorrow<'a,T>"⟩] } = false := by decide +kernel
/-- `pub fn borrow_arc<'s>(&'s self) -> ArcBorrow<'s, T>`: the same lifetime named — fine -/
example : regionBounded { sigBase with fnLts := ["s"], recvRegion := .named "s", outRegions := [⟨.named "s", true, "ArcBorrow<'s,T>"⟩] } = true := by decide +kernel
/-- `fn get<'s, 'o>(&'s self) -> &'o T where 's: 'o`: shorter than the receiver — fine -/
example : regionBounded { sigBase with fnLts := ["s", "o"], recvRegion := .named "s", outlives := [("s", "o")], outRegions := [⟨.named "o", true, "&'o T"⟩] } = true := by decide +kernel
/-- `ArcBorrow::get(&self) -> &'static T` -/
example : regionBounded { sigBase with selfLts := ["a"], implLts := ["a"], outRegions := [⟨.static, true, "&'static T"⟩] } = false := by decide +kernel
/-- `ArcBorrow::get(&self) -> &'a T` with `'a` the struct's lifetime -/
example : regionBounded { sigBase with selfLts := ["a"], implLts := ["a"], outRegions := [⟨.named "a", true, "&'a T"⟩] } = true := by decide +kernel
/-- a `&'static str` that does not mention the payload is nobody's borrow -/
example : regionBounded { sigBase with outRegions := [⟨.static, false, "&'static str"⟩] } = true := by decide +kernel
/-- `fn get<'b>(&self, tag: &'b ()) -> &'b T`: tied to an unrelated argument -/
example : regionBounded { sigBase with fnLts := ["b"], otherInputs := [⟨.named "b", false, "&'b ()"⟩], outRegions := [⟨.named "b", true, "&'b T"⟩] } = false := by decide +kernel
/-- an unrelated helper without a handle receiver, `fn first<'q>(xs: &'q [u8]) -> &'q u8`, is not an alarm -/
example : regionBounded { sigBase with recv := .none, recvRegion := .unknown, fnLts := ["q"], otherInputs := [⟨.named "q", false, "&'q [u8]"⟩], outRegions := [⟨.named "q", false, "&'q u8"⟩] } = true := by decide +kernel
/-- `F: FnOnce(&Arc<T>) -> U` is higher-ranked, `F: FnOnce(&'b Arc<T>) -> U` is not, `for<'r> FnOnce(&'r ..)` is -/
example : higherRanked ⟨"F", "FnOnce", [], [⟨.elided, true, "&Arc<T>"⟩]⟩ = true := by decide +kernel
example : higherRanked ⟨"F", "FnOnce", [], [⟨.named "b", true, "&'b Arc<T>"⟩]⟩ = false := by decide +kernel
example : higherRanked ⟨"F", "FnOnce", ["r"], [⟨.named "r", true, "&'r Arc<T>"⟩]⟩ = true := by decide +kernel

end C13
