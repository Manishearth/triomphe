import TriompheModel.Proofs.Ctor
/-!
# C06 — constructors deliver exactly the given contents and move each element once

Theorems about the constructor model of `Model/Ops.lean` (`runCtor`, `runIterCtor`), for EVERY
memory `m`, every header, every item list of ANY length, every script — no bounds.

* `C06_runCtor_contents`, `C06_runCtor_uninit`, `C06_runCtor_old_blocks`, `C06_runCtor_no_drop`:
  the plain constructors (`Arc::new`, `From<Box>`, `UniqueArc::new`, `From<Vec>`,
  `from_header_and_vec` with plain and `HeaderWithLength` headers, `new_uninit*`).
* `C06_iter_honest`, `C06_iter_inexact`, `C06_iter_built_contents`: the iterator-driven
  constructors (`from_header_and_iter`, `ThinArc::from_header_and_iter`, `FromIterator` for
  `Arc<[T]>` / `UniqueArc<[T]>`, exact-size fast path and collect-to-`Vec` fallback).
* `C06_each_element_destroyed_once_by_the_allocation`, `C06_drop_fresh_ctor`, `C06_drop_fresh_iter`:
  "each input element is destroyed exactly once, by the resulting allocation".

The only way a constructor does not deliver is the layout computation overflowing
(`allocLayoutHeaderSlice … = none`, the `unwrap()` of `Layout::array/extend` in the Rust), which
`C06_layout_never_overflows_below_2_59` excludes for every length up to 2^59 elements; the theorems
carry the success of that computation as an explicit hypothesis (or conclude with it).

Zero-sized element types: NOT modelled here.  The element types of the history model (`Tracked`, `TrackedB`) are
non-zero-sized; the `assert_ne!(size_of::<T>(), 0)` refusals and the zero-sized shapes are the
subject of the layout component (`LY.ctorHeaderSlice`, `HsCtor.assertsNonZst`, Props/C05).
-/
namespace M1
open LY

/-! ## the plain constructors -/

/-- **contents**: a value-taking constructor that returns, returns a handle to a NEW block (index
`m.blocks.length`) with count 1, live, not leaked, holding the given header (`none` where the type
has none), exactly the given values in the same order and number, the given length word for the
`HeaderWithLength` form; the slice forms carry the number of values; the log gains exactly one
`.alloc` event (so no input value is dropped or cloned); nothing else changes. -/
theorem C06_runCtor_contents (m : Mem) (c : Ctor) (m' : Mem) (hv : HV) (hc : c.takesValues = true)
    (hr : runCtor m c = some (m', hv)) :
    hv.blk = m.blocks.length ∧
    ∃ k : Block, m'.blocks = m.blocks ++ [k] ∧ k.count = 1 ∧ k.live = true ∧ k.leaked = false ∧
      k.hdr = c.hdr ∧ k.elems = c.vals.map some ∧ k.recLen = c.recLen ∧ some k.lay = c.lay? ∧
      (c.isSlice = true → hv.len = c.vals.length) ∧
      m'.log = m.log ++ [.alloc hv.blk k.lay.size k.lay.align] ∧ m'.nextClone = m.nextClone := by
  obtain ⟨lay, hl, rfl, rfl⟩ := runCtor_some hr
  have hb := Ctor.handle_blk c m.blocks.length
  refine ⟨hb, _, rfl, rfl, rfl, rfl, rfl, if_pos hc, rfl, hl.symm, ?_, ?_, rfl⟩
  · intro hs; simpa [hs, hc] using (c.handle_spec m.blocks.length).2.2.2
  · rw [hb]

/-- the `new_uninit*` family: the given header, `n` unwritten slots, nothing else -/
theorem C06_runCtor_uninit (m : Mem) (c : Ctor) (m' : Mem) (hv : HV) (hc : c.takesValues = false)
    (hr : runCtor m c = some (m', hv)) :
    hv.blk = m.blocks.length ∧ hv.ty.elemsInit = false ∧
    ∃ k : Block, m'.blocks = m.blocks ++ [k] ∧ k.count = 1 ∧ k.live = true ∧ k.leaked = false ∧
      k.hdr = c.hdr ∧ k.elems = List.replicate c.slots none ∧ k.recLen = none ∧ some k.lay = c.lay? ∧
      (c.isSlice = true → hv.len = c.slots) ∧
      m'.log = m.log ++ [.alloc hv.blk k.lay.size k.lay.align] ∧ m'.nextClone = m.nextClone := by
  obtain ⟨lay, hl, rfl, rfl⟩ := runCtor_some hr
  have hb := Ctor.handle_blk c m.blocks.length
  refine ⟨hb, ?_, _, rfl, rfl, rfl, rfl, rfl, ?_, ?_, hl.symm, ?_, ?_, rfl⟩
  · rw [(c.handle_spec m.blocks.length).2.1, hc]
  · simp [Ctor.elems, hc]
  · cases c <;> first | rfl | exact Bool.noConfusion hc
  · intro hs; simpa [hs, hc] using (c.handle_spec m.blocks.length).2.2.2
  · rw [hb]

/-- every constructor leaves the old blocks untouched and appends exactly one -/
theorem C06_runCtor_old_blocks (m : Mem) (c : Ctor) (m' : Mem) (hv : HV)
    (hr : runCtor m c = some (m', hv)) :
    m'.blocks.length = m.blocks.length + 1 ∧ ∀ j, j < m.blocks.length → m'.blocks[j]? = m.blocks[j]? := by
  obtain ⟨lay, hl, rfl, rfl⟩ := runCtor_some hr
  exact ⟨by simp, fun j hj => by simp [List.getElem?_append_left hj]⟩

/-- **moved, not dropped**: no constructor emits a `.drop` (or `.dropUninit`, `.clone`, `.dealloc`)
event: the only event is the allocation -/
theorem C06_runCtor_no_drop (m : Mem) (c : Ctor) (m' : Mem) (hv : HV)
    (hr : runCtor m c = some (m', hv)) :
    ∃ size align, added m m' = [.alloc m.blocks.length size align] ∧
      ∀ e ∈ added m m', e.isDrop = false ∧ e.isDropUninit = false := by
  obtain ⟨lay, hl, rfl, rfl⟩ := runCtor_some hr
  refine ⟨lay.size, lay.align, added_append .., ?_⟩
  rw [added_append, List.forall_mem_singleton]
  exact ⟨rfl, rfl⟩

/-- a constructor fails exactly when its layout computation overflows -/
theorem C06_runCtor_succeeds_iff (m : Mem) (c : Ctor) : (runCtor m c).isSome = c.lay?.isSome := by
  rw [runCtor_eq, Option.isSome_map]

/-- … which does not happen for any length up to 2^59 (all header shapes of the model) -/
theorem C06_layout_never_overflows_below_2_59 :
    (∀ (c : Ctor) (m : Mem), c.vals.length ≤ 2 ^ 59 → c.slots ≤ 2 ^ 59 → (runCtor m c).isSome = true) ∧
    (∀ (which : IterCtor) (n : Nat), n ≤ 2 ^ 59 →
      (allocLayoutHeaderSlice bits which.hdrLay trackedLay n).isSome = true) :=
  ⟨fun c m h1 h2 => by rw [C06_runCtor_succeeds_iff]; exact ctor_layout_ok c h1 h2, layout_ok⟩

/-! ### the statement spelled out for the individual constructors -/

theorem C06_fromVec (m m' : Mem) (vs : List Item) (hv : HV) (hr : runCtor m (.fromVec vs) = some (m', hv)) :
    ∃ k : Block, m'.blocks = m.blocks ++ [k] ∧ hv.blk = m.blocks.length ∧ hv.len = vs.length ∧
      k.hdr = none ∧ k.elems = vs.map some ∧ k.count = 1 := by
  obtain ⟨hb, k, h1, h2, _, _, h5, h6, _, _, h9, _⟩ := C06_runCtor_contents m _ m' hv rfl hr
  exact ⟨k, h1, hb, h9 rfl, h5, h6, h2⟩

theorem C06_hsFromVec (m m' : Mem) (h : Item) (vs : List Item) (hv : HV)
    (hr : runCtor m (.hsFromVec h vs) = some (m', hv)) :
    ∃ k : Block, m'.blocks = m.blocks ++ [k] ∧ hv.blk = m.blocks.length ∧ hv.len = vs.length ∧
      k.hdr = some h ∧ k.elems = vs.map some ∧ k.count = 1 := by
  obtain ⟨hb, k, h1, h2, _, _, h5, h6, _, _, h9, _⟩ := C06_runCtor_contents m _ m' hv rfl hr
  exact ⟨k, h1, hb, h9 rfl, h5, h6, h2⟩

theorem C06_hwlFromVec (m m' : Mem) (h : Item) (r : Nat) (vs : List Item) (hv : HV)
    (hr : runCtor m (.hwlFromVec h r vs) = some (m', hv)) :
    ∃ k : Block, m'.blocks = m.blocks ++ [k] ∧ hv.blk = m.blocks.length ∧ hv.len = vs.length ∧
      k.hdr = some h ∧ k.recLen = some r ∧ k.elems = vs.map some ∧ k.count = 1 := by
  obtain ⟨hb, k, h1, h2, _, _, h5, h6, h7, _, h9, _⟩ := C06_runCtor_contents m _ m' hv rfl hr
  exact ⟨k, h1, hb, h9 rfl, h5, h7, h6, h2⟩

theorem C06_sized (m m' : Mem) (c : Ctor) (v : Item) (hv : HV)
    (hc : c = .new v ∨ c = .newB v ∨ c = .fromBox v ∨ c = .uniqueNew v)
    (hr : runCtor m c = some (m', hv)) :
    ∃ k : Block, m'.blocks = m.blocks ++ [k] ∧ hv.blk = m.blocks.length ∧
      k.hdr = none ∧ k.elems = [some v] ∧ k.count = 1 := by
  have hc' : c.takesValues = true ∧ c.hdr = none ∧ c.vals = [v] := by
    rcases hc with rfl | rfl | rfl | rfl <;> exact ⟨rfl, rfl, rfl⟩
  obtain ⟨hb, k, h1, h2, _, _, h5, h6, _⟩ := C06_runCtor_contents m c m' hv hc'.1 hr
  rw [hc'.2.1] at h5
  rw [hc'.2.2] at h6
  exact ⟨k, h1, hb, h5, h6, h2⟩

/-! ## the iterator-driven constructors -/

/-- the shape of a successful iterator-driven construction: one new block with the header (for the
header forms), ALL the items in order, every slot written, the length word for the thin form, count
1; exactly one `.alloc` event, hence no `.drop` -/
def IterBuilt (m : Mem) (which : IterCtor) (h : Option Item) (items : List Item) (lay : Layout)
    (m' : Mem) (hv : HV) : Prop :=
  ∃ k : Block, m'.blocks = m.blocks ++ [k] ∧ hv.blk = m.blocks.length ∧
    k.count = 1 ∧ k.live = true ∧ k.leaked = false ∧ k.lay = lay ∧
    k.hdr = which.hdrOf h ∧ k.elems = items.map some ∧ k.recLen = which.recOf items.length ∧
    hv.kind = which.kind ∧ hv.ty = which.ty ∧ hv.len = which.lenOf items.length ∧
    viewLen m' hv = items.length ∧
    m'.log = m.log ++ [.alloc hv.blk lay.size lay.align] ∧ m'.nextClone = m.nextClone

theorem iterBuilt_of_builtRes (m : Mem) (which : IterCtor) (h : Option Item) (items : List Item)
    (lay : Layout) (m' : Mem) (hv : HV) (hr : which.builtRes m h items lay = .built m' hv) :
    IterBuilt m which h items lay m' hv := by
  cases hr
  refine ⟨_, rfl, rfl, rfl, rfl, rfl, rfl, rfl, rfl, rfl, rfl, rfl, rfl, ?_, rfl, rfl⟩
  cases which with
  | thinFromIter =>
    simp only [viewLen, IterCtor.kind, List.getElem?_concat_length, Option.bind_some, IterCtor.recOf, Option.getD_some]
  | _ => rfl

/-- **honest iterators** (every `len()` answer is the item count, every `size_hint()` answer the
exact pair — `[]` = the default answer —, no panic): every iterator-driven constructor, in both
profiles, returns a handle with exactly the given header and items. -/
theorem C06_iter_honest (m : Mem) (dbg : Bool) (which : IterCtor) (h : Option Item) (sc : IterScript)
    (hh : sc.Honest) (lay : Layout)
    (hal : allocLayoutHeaderSlice bits which.hdrLay trackedLay sc.items.length = some lay) :
    ∃ m' hv, runIterCtor m dbg which h sc = .built m' hv ∧ IterBuilt m which h sc.items lay m' hv := by
  have hr := runIterCtor_honest m dbg which h sc hh lay hal
  exact ⟨_, _, hr, iterBuilt_of_builtRes m which h sc.items lay _ _ rfl⟩

/-- the same without the layout hypothesis, for up to 2^59 items -/
theorem C06_iter_honest_below_2_59 (m : Mem) (dbg : Bool) (which : IterCtor) (h : Option Item)
    (sc : IterScript) (hh : sc.Honest) (hn : sc.items.length ≤ 2 ^ 59) :
    ∃ m' hv lay, runIterCtor m dbg which h sc = .built m' hv ∧ IterBuilt m which h sc.items lay m' hv := by
  have := layout_ok which sc.items.length hn
  obtain ⟨lay, hal⟩ := Option.isSome_iff_exists.1 this
  obtain ⟨m', hv, h1, h2⟩ := C06_iter_honest m dbg which h sc hh lay hal
  exact ⟨m', hv, lay, h1, h2⟩

/-- **honest inexact hint** (`lower ≠ upper`, or no upper bound, on the first `size_hint()` call; no
panic; whatever `len()` says): `FromIterator` for `Arc<[T]>` and `UniqueArc<[T]>` takes the
collect-to-`Vec` fallback and delivers the same contents. -/
theorem C06_iter_inexact (m : Mem) (dbg : Bool) (which : IterCtor)
    (hw : which = .fromIter ∨ which = .uniqueFromIter) (h : Option Item) (sc : IterScript)
    (lo : Nat) (hi : Option Nat) (rest : List (Nat × Option Nat))
    (hhint : sc.hints = (lo, hi) :: rest) (hne : some lo ≠ hi) (hp : sc.panicAt = none) (lay : Layout)
    (hal : allocLayoutHeaderSlice bits which.hdrLay trackedLay sc.items.length = some lay) :
    ∃ m' hv, runIterCtor m dbg which h sc = .built m' hv ∧ IterBuilt m which h sc.items lay m' hv := by
  have hr := runIterCtor_inexact m dbg which hw h sc lo hi rest hhint hne hp lay hal
  exact ⟨_, _, hr, iterBuilt_of_builtRes m which h sc.items lay _ _ rfl⟩

/-- for EVERY script, honest or not: whenever an iterator-driven constructor returns a handle at
all, the block holds exactly the header and all the items of the iterator — wrong contents are
never returned -/
theorem C06_iter_built_contents (m : Mem) (dbg : Bool) (which : IterCtor) (h : Option Item)
    (sc : IterScript) (m' : Mem) (hv : HV) (hr : runIterCtor m dbg which h sc = .built m' hv) :
    ∃ lay, allocLayoutHeaderSlice bits which.hdrLay trackedLay sc.items.length = some lay ∧
      IterBuilt m which h sc.items lay m' hv := by
  have hs := runIterCtor_spec m dbg which h sc
  rw [hr] at hs
  cases hs with
  | built lay hal => exact ⟨lay, hal, iterBuilt_of_builtRes m which h sc.items lay _ _ rfl⟩

/-! ## each element is destroyed exactly once, by the resulting allocation -/

/-- dropping the payload of a block whose slots are all written, through a view that considers the
elements initialised and sees them all: one `.drop` for the header (if any), then exactly one
`.drop` per element, in order; no `.dropUninit` -/
theorem C06_each_element_destroyed_once_by_the_allocation (b : Nat) (k : Block) (t : Ty) (len : Nat)
    (hall : ∀ e ∈ k.elems, e.isSome = true) (ht : t.elemsInit = true) (hlen : len = k.elems.length) :
    ∃ vs : List Item, k.elems = vs.map some ∧
      payloadDrops b k t len = hdrDrops k.hdr ++ dropsOf vs ∧
      dropIds (payloadDrops b k t len) = (k.hdr.toList ++ vs).map (·.id) ∧
      ∀ e ∈ payloadDrops b k t len, e.isDropUninit = false := by
  obtain ⟨vs, hvs⟩ := all_some_eq_map hall
  have hp := payloadDrops_written b k t len vs hvs ht (by simp [hlen, hvs])
  refine ⟨vs, hvs, hp, ?_, ?_⟩
  · rw [hp, dropIds_append, dropIds_hdrDrops, dropIds_dropsOf, List.map_append]
  · rw [hp, List.forall_mem_append]
    exact ⟨no_uninit_hdrDrops _, no_uninit_dropsOf _⟩

/-- dropping the sole handle of a freshly constructed `Arc`/`UniqueArc`: the header and each given
value are destroyed exactly once, in order, then the block is deallocated once; the block ends
dead with count 0 -/
theorem C06_drop_fresh_ctor (m : Mem) (c : Ctor) (m' : Mem) (hv : HV) (hc : c.takesValues = true)
    (hr : runCtor m c = some (m', hv)) :
    ∃ m'' k size align, dropHandle m' hv = some m'' ∧
      m''.log = m'.log ++ (hdrDrops c.hdr ++ dropsOf c.vals ++ [.dealloc hv.blk size align]) ∧
      m''.blocks = m.blocks ++ [k] ∧ k.live = false ∧ k.count = 0 := by
  obtain ⟨lay, hl, rfl, rfl⟩ := runCtor_some hr
  have hb := Ctor.handle_blk c m.blocks.length
  obtain ⟨hkind, hinit, hsl, hlen⟩ := c.handle_spec m.blocks.length
  exact ⟨_, _, _, _, dropHandle_sole _ _ _ _ _ c.vals rfl (if_pos hc) hb hkind (by rw [hinit, hc])
    (by simpa [hsl, hc] using hlen), by rw [hb], rfl, rfl, rfl⟩

/-- for EVERY script: dropping the handle an iterator-driven constructor returned destroys the
header and each item of the iterator exactly once, in order, then deallocates the block once -/
theorem C06_drop_fresh_iter (m : Mem) (dbg : Bool) (which : IterCtor) (h : Option Item)
    (sc : IterScript) (m' : Mem) (hv : HV) (hr : runIterCtor m dbg which h sc = .built m' hv) :
    ∃ m'' k size align, dropHandle m' hv = some m'' ∧
      m''.log = m'.log ++ (hdrDrops (which.hdrOf h) ++ dropsOf sc.items ++ [.dealloc hv.blk size align]) ∧
      m''.blocks = m.blocks ++ [k] ∧ k.live = false ∧ k.count = 0 := by
  have hs := runIterCtor_spec m dbg which h sc
  rw [hr] at hs
  cases hs with
  | built lay hal =>
    cases which with
    | thinFromIter =>
      exact ⟨_, _, _, _, (dropHandle_thin _ _ _ sc.items.length rfl List.getElem?_concat_length rfl).trans
        (dropHandle_sole _ _ _ _ _ sc.items rfl rfl rfl (Or.inl rfl) rfl rfl), rfl, rfl, rfl, rfl⟩
    | hsFromIter | fromIter =>
      exact ⟨_, _, _, _, dropHandle_sole _ _ _ _ _ sc.items rfl rfl rfl (Or.inl rfl) rfl rfl,
        rfl, rfl, rfl, rfl⟩
    | uniqueFromIter =>
      exact ⟨_, _, _, _, dropHandle_sole _ _ _ _ _ sc.items rfl rfl rfl (Or.inr rfl) rfl rfl,
        rfl, rfl, rfl, rfl⟩

/-! ## non-vacuity: concrete, non-trivial instances -/

section Examples

def exItems : List Item := [⟨1, 10⟩, ⟨2, 20⟩, ⟨3, 30⟩]
def exHdr : Item := ⟨9, 90⟩
/-- a memory that already holds a block and a log entry -/
def exMem : Mem := (Arc.new State.init.mem .sized (some ⟨7, 70⟩)).1

/-- honest scripts exist: default answers, and explicit (repeated) exact answers -/
example : IterScript.Honest ⟨[], [], exItems, none⟩ := by decide +kernel
example : IterScript.Honest ⟨[3, 3], [(3, some 3), (3, some 3)], exItems, none⟩ := by decide +kernel
/-- … and lying ones are not honest -/
example : ¬ IterScript.Honest ⟨[3, 2], [], exItems, none⟩ := by decide +kernel

/-- the layout hypothesis holds on these instances -/
example : allocLayoutHeaderSlice bits IterCtor.thinFromIter.hdrLay trackedLay exItems.length = some ⟨48, 8⟩ := by
  decide +kernel
example : (Ctor.hwlFromVec exHdr 3 exItems).lay? = some ⟨48, 8⟩ := by decide +kernel

/-- `C06_runCtor_contents` applies to `from_header_and_vec(HeaderWithLength::new(h, 3), vec)` in a
non-empty memory: the run succeeds and its premises hold -/
example : ∃ m' hv, runCtor exMem (.hwlFromVec exHdr 3 exItems) = some (m', hv) ∧ hv.blk = 1 ∧
    (m'.blocks.map (·.elems)) = [[some ⟨7, 70⟩], exItems.map some] := by
  refine ⟨_, _, by rw [runCtor_eq]; rfl, rfl, rfl⟩

/-- `C06_iter_honest` on a concrete honest script, thin form: the run is `.built`, the new block is
block 1 and records length 3 -/
example : ∃ m' hv, runIterCtor exMem true .thinFromIter (some exHdr) ⟨[3, 3], [], exItems, none⟩ = .built m' hv ∧
    IterBuilt exMem .thinFromIter (some exHdr) exItems ⟨48, 8⟩ m' hv :=
  C06_iter_honest exMem true .thinFromIter (some exHdr) ⟨[3, 3], [], exItems, none⟩ (by decide) ⟨48, 8⟩
    (by decide)

/-- `C06_iter_inexact` on a concrete script whose hint is `(1, None)` -/
example : ∃ m' hv, runIterCtor exMem true .fromIter none ⟨[], [(1, none)], exItems, none⟩ = .built m' hv ∧
    IterBuilt exMem .fromIter none exItems ⟨32, 8⟩ m' hv :=
  C06_iter_inexact exMem true .fromIter (Or.inl rfl) none ⟨[], [(1, none)], exItems, none⟩ 1 none []
    rfl (by decide) rfl ⟨32, 8⟩ (by decide)

/-- `C06_each_element_destroyed_once_by_the_allocation`: a concrete fully written block with a header -/
example : payloadDrops 5 ⟨1, true, ⟨48, 8⟩, some exHdr, some 3, exItems.map some, false⟩ .hwl 3
    = [.drop 9, .drop 1, .drop 2, .drop 3] := by decide +kernel

/-- … and the hypothesis "all slots written" matters: an unwritten slot seen through an initialised
view would be a `.dropUninit` (this is what C07/C15 exclude) -/
example : payloadDrops 5 ⟨1, true, ⟨48, 8⟩, none, none, [some ⟨1, 10⟩, none], false⟩ .slice 2
    = [.drop 1, .dropUninit 5 1] := by decide +kernel

end Examples

end M1
