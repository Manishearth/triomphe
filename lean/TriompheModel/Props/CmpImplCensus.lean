import TriompheModel.Generated.Impls
/-!
# Census of the comparison / hashing / formatting impls (Tie A for C14)

The comparison harness (`harness/src/bin/cmp.rs`, the `cmp` history op) drives, for every handle and payload type, exactly the
trait impls the crate has today.  A NEW impl — say `PartialOrd`/`Ord`/`Hash` for a handle that only had `PartialEq`, by a
`#[derive]` on the pointer field — is an observer the harness does not call, and one that may well compare or hash the ADDRESS
instead of the value.  This obligation demands that the set of (trait, type) pairs among the comparison, hashing, formatting and
borrowing traits is exactly the known one, on the impl table the translator regenerates from the source on every run.
-/
namespace CmpImplCensus

def cmpTraits : List String := ["PartialEq", "Eq", "PartialOrd", "Ord", "Hash", "Debug", "Display", "Pointer", "Borrow", "AsRef"]

def impls : List (String × String) :=
  ((Generated.implForms.filter (fun r => cmpTraits.contains r.trait_)).map (fun r => (r.trait_, r.selfHead))).eraseDups

def expected : List (String × String) :=
  [("PartialEq", "Arc"), ("PartialOrd", "Arc"), ("Ord", "Arc"), ("Eq", "Arc"), ("Display", "Arc"), ("Debug", "Arc"), ("Pointer", "Arc"),
   ("Hash", "Arc"), ("Borrow", "Arc"), ("AsRef", "Arc"),
   ("PartialEq", "ArcBorrow"), ("Eq", "ArcBorrow"), ("Debug", "ArcBorrow"),
   ("PartialEq", "ArcUnion"), ("Debug", "ArcUnionBorrow"), ("Debug", "ArcUnion"),
   ("Debug", "HeaderSlice"), ("Eq", "HeaderSlice"), ("PartialEq", "HeaderSlice"), ("Hash", "HeaderSlice"), ("PartialOrd", "HeaderSlice"), ("Ord", "HeaderSlice"),
   ("Debug", "HeaderWithLength"), ("Eq", "HeaderWithLength"), ("PartialEq", "HeaderWithLength"), ("Hash", "HeaderWithLength"),
   ("Debug", "HeaderSliceWithLengthProtected"), ("Hash", "HeaderSliceWithLengthProtected"), ("Eq", "HeaderSliceWithLengthProtected"),
   ("PartialEq", "HeaderSliceWithLengthProtected"), ("Ord", "HeaderSliceWithLengthProtected"), ("PartialOrd", "HeaderSliceWithLengthProtected"),
   ("Eq", "OffsetArc"), ("Debug", "OffsetArc"), ("PartialEq", "OffsetArc"),
   ("PartialEq", "ThinArc"), ("Eq", "ThinArc"), ("PartialOrd", "ThinArc"), ("Ord", "ThinArc"), ("Hash", "ThinArc"), ("Debug", "ThinArc"), ("Pointer", "ThinArc")]

/-- **the comparison / hash / format impls are exactly the ones the harness exercises** -/
theorem obl_cmp_impl_census : (impls.all (fun x => expected.contains x) && expected.all (fun x => impls.contains x)) = true := by decide +kernel

end CmpImplCensus
