import TriompheModel.Props.C02
import TriompheModel.WM.Ownership
/-!
# C02 stated about PROGRAMS

`Props/C02.lean` states C02 about executions that satisfy `Protocol`.  `WM/Ownership.lean` derives `Protocol` for every run of the
operational, ownership-guarded semantics of handle programs.  Composed: for every finite run of any number of threads that clone,
read through, hand over and drop handles to one value, and for every happens-before relation that is transitive, contains the run's
program order and hand-over edges, and is consistent (the memory-model fragment `Consistent`: coherence and synchronises-with at
the orderings found in the source) — every access any thread made through its handle, and every other clone / drop, happens-before
the destruction; there is exactly one destroyer.  No `Protocol` hypothesis is left.
-/
open WM WM.Own
namespace C02

variable (r : Run Generated.decOrd C02.fenceOrd)
variable {hb : Ev (Fin r.final.kinds.length) → Ev (Fin r.final.kinds.length) → Prop}

theorem C02_for_every_program
    (hpo : ∀ x y, (lift x, lift y) ∈ r.final.po → hb x y)
    (hsw : ∀ x y, (lift x, lift y) ∈ r.final.sw → hb x y)
    (htrans : ∀ x y z, hb x y → hb y z → hb x z)
    (hc : Consistent (execOf r.final hb))
    {f : Fin r.final.kinds.length} {k : Nat} (hf : (execOf r.final hb).kind f = .destroy k) :
    k + 1 = r.final.ops.length ∧
    (∀ (a : Fin r.final.kinds.length) (h : H), ((execOf r.final hb).kind a).via = some h → hb (.oth a) (.oth f)) ∧
    (∀ i, i < r.final.ops.length → i ≠ k → hb (.rmw i) (.oth f)) :=
  C02_destroy_after_all hc (protocol_of_run r hb hpo hsw htrans) hf

theorem C02_one_destroyer_in_every_program
    (hpo : ∀ x y, (lift x, lift y) ∈ r.final.po → hb x y)
    (hsw : ∀ x y, (lift x, lift y) ∈ r.final.sw → hb x y)
    (htrans : ∀ x y z, hb x y → hb y z → hb x z)
    (hc : Consistent (execOf r.final hb))
    {f₁ f₂ : Fin r.final.kinds.length} {k₁ k₂ : Nat}
    (h₁ : (execOf r.final hb).kind f₁ = .destroy k₁) (h₂ : (execOf r.final hb).kind f₂ = .destroy k₂) : f₁ = f₂ :=
  C02_destroy_unique hc (protocol_of_run r hb hpo hsw htrans) h₁ h₂

end C02
