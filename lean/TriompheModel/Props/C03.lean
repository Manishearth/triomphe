import TriompheModel.Proofs.HistInv
/-!
# C03 — mutable access only for a sole owner (history half) + schedule half (Props/C03Sched.lean)

For every gate op of the model: it grants exactly when the count word it loads is 1, and when it
declines the state — memory and every handle, including the caller's — is unchanged.  That "the
count word is 1" means "no other owning handle of any kind exists" is the invariant `M1.Inv`
(`count = owners`): `C03_verdict_iff_sole_owner` below.
-/
namespace M1
namespace C03H

/-- `is_unique` reads the count word and compares with 1 -/
theorem C03_is_unique_def (m : Mem) (a : HV) : Arc.is_unique m a = (loadCount m a.blk == 1) := rfl

/-- **`get_mut` declines ⇒ nothing changes** -/
theorem C03_get_mut_decline (s : State) (src v : Nat) (h : HV) (hs : lookup s src = some h)
    (hk : h.kind = .arc) (hi : h.ty.elemsInit = true) (hu : Arc.is_unique s.mem h = false) :
    step s (.getMut src v) = (s, ok "none") := by
  simp [step, hs, hk, hi, hu]

/-- **`get_mut` grants ⇒ only the contents of that block change** (slots untouched) -/
theorem C03_get_mut_grant (s : State) (src v : Nat) (h : HV) (hs : lookup s src = some h)
    (hk : h.kind = .arc) (hi : h.ty.elemsInit = true) (hu : Arc.is_unique s.mem h = true) :
    step s (.getMut src v) = (⟨writeVal s.mem h.blk v, s.slots⟩, ok "some") := by
  simp [step, hs, hk, hi, hu]

/-- **`get_unique` declines ⇒ nothing changes** -/
theorem C03_get_unique_decline (s : State) (src v : Nat) (h : HV) (hs : lookup s src = some h)
    (hk : h.kind = .arc) (hi : h.ty.elemsInit = true) (hu : Arc.is_unique s.mem h = false) :
    step s (.getUnique src v) = (s, ok "none") := by
  simp [step, hs, hk, hi, Arc.try_unique, hu]

/-- **`try_unique` / `TryFrom` declines ⇒ the very same handle value stays in the slot** -/
theorem C03_try_unique_decline (s : State) (src : Nat) (h : HV) (hs : lookup s src = some h)
    (hk : h.kind = .arc) (hty : h.ty = .sized ∨ h.ty = .slice ∨ h.ty = .hs ∨ h.ty = .hwl ∨ h.ty = .mu ∨ h.ty = .muSlice)
    (hu : Arc.is_unique s.mem h = false) :
    step s (.tryUnique src) = (s, ok "err") := by
  simp [step, hs, hk, hty, Arc.try_unique, hu]

/-- **`try_unwrap` declines ⇒ nothing changes** -/
theorem C03_try_unwrap_decline (s : State) (src : Nat) (h : HV) (hs : lookup s src = some h)
    (hk : h.kind = .arc) (hty : h.ty = .sized) (hu : Arc.is_unique s.mem h = false) :
    step s (.tryUnwrap src) = (s, ok "err") := by
  simp [step, hs, hk, hty, Arc.try_unwrap, Arc.try_unique, hu]

/-- **`ThinArc::with_arc_mut` ∘ `get_mut`** declines on a shared block without touching anything -/
theorem C03_thin_get_mut_decline (s : State) (src v : Nat) (t : HV) (acc : String)
    (hu : Arc.is_unique s.mem t = false) :
    runCb .thinWithArcMut src [.getMutWrite v] s t acc = (s, ok (acc ++ "mut=none;")) := by
  simp [runCb, hu]

/-- **the verdict is "sole owner".**  In every state reachable by any history, for the handle in
any slot: `is_unique` (an Acquire load compared with 1) is true iff that handle is the ONLY owning
handle value of any kind — raw pointers given out by `into_raw`-style calls included. -/
theorem C03_verdict_iff_sole_owner (ops : List Op) (i : Nat) (h : HV) (hl : lookup (run ops) i = some h) :
    Arc.is_unique (run ops).mem h = true ↔ owners (run ops) h.blk = 1 := by
  rw [C03_is_unique_def, (count_eq_owners (inv_run ops) hl).1, beq_iff_eq]

/-- `get_mut` after any history: grants iff sole owner; when it declines NOTHING changes -/
theorem C03_get_mut_iff (ops : List Op) (src v : Nat) (h : HV) (hl : lookup (run ops) src = some h)
    (hk : h.kind = .arc) (hi : h.ty.elemsInit = true) :
    (owners (run ops) h.blk = 1 → (step (run ops) (.getMut src v)).2 = ok "some") ∧
    (owners (run ops) h.blk ≠ 1 → step (run ops) (.getMut src v) = (run ops, ok "none")) :=
  ⟨fun ho => congrArg (·.2) (C03_get_mut_grant _ src v h hl hk hi ((C03_verdict_iff_sole_owner ops src h hl).2 ho)),
   fun ho => C03_get_mut_decline _ src v h hl hk hi (not_unique (inv_run ops) hl ho)⟩

/-- `try_unique` / `TryFrom<Arc<T>> for UniqueArc<T>` after any history -/
theorem C03_try_unique_iff (ops : List Op) (src : Nat) (h : HV) (hl : lookup (run ops) src = some h)
    (hk : h.kind = .arc) (hty : h.ty = .sized ∨ h.ty = .slice ∨ h.ty = .hs ∨ h.ty = .hwl ∨ h.ty = .mu ∨ h.ty = .muSlice) :
    (owners (run ops) h.blk = 1 → (step (run ops) (.tryUnique src)).2 = ok "ok") ∧
    (owners (run ops) h.blk ≠ 1 → step (run ops) (.tryUnique src) = (run ops, ok "err")) :=
  ⟨fun ho => by simp [step, hl, hk, hty, Arc.try_unique, (C03_verdict_iff_sole_owner ops src h hl).2 ho],
   fun ho => C03_try_unique_decline _ src h hl hk hty (not_unique (inv_run ops) hl ho)⟩

/-- `try_unwrap` after any history: unless the handle is the sole owner it declines and NOTHING changes (the granting
direction is `C09.C09_sole_owner_moves_out`) -/
theorem C03_try_unwrap_iff (ops : List Op) (src : Nat) (h : HV) (hl : lookup (run ops) src = some h)
    (hk : h.kind = .arc) (hty : h.ty = .sized) :
    (owners (run ops) h.blk ≠ 1 → step (run ops) (.tryUnwrap src) = (run ops, ok "err")) :=
  fun ho => C03_try_unwrap_decline _ src h hl hk hty (not_unique (inv_run ops) hl ho)

/-- the deprecated `Arc::write` / `as_mut_slice`: panics iff another owner exists -/
theorem C03_deprecated_write_iff (ops : List Op) (src i : Nat) (v : Item) (h : HV)
    (hl : lookup (run ops) src = some h) (hk : h.kind = .arc) (hty : h.ty = .mu ∨ h.ty = .muSlice)
    (hi : i < viewLen (run ops).mem h) :
    ((step (run ops) (.writeSlot src i v)).2.status = "panic:not-unique" ↔ owners (run ops) h.blk ≠ 1) := by
  have hne : h.ty ≠ .hsMu := by rcases hty with e | e <;> rw [e] <;> decide
  -- `owners ≠ 1` is "the verdict is false"; the op passes its guard and panics exactly on that verdict
  rw [ne_eq, ← C03_verdict_iff_sole_owner ops src h hl]
  simp only [step, hl, if_pos (And.intro (hty.imp_right Or.inl) (And.intro hi (Or.inr (And.intro hk hne))))]
  cases Arc.is_unique (run ops).mem h <;> simp [hk, panicked, ok]

end C03H
end M1
