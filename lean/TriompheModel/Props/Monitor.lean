import TriompheModel.Proofs.MonitorSound
/-!
# The monitor never rejects the model

`Model/Monitor.lean` is an executable trace monitor over structured observations (the lines of the history
correspondence, parsed).  Here: on the trace the model `M1` itself produces — every op of a history together with
the observation `observe` computes from `step` — every check of `checkOp` passes, for EVERY finite history whose
value identities are distinct (`FreshIds`, what the generator guarantees; needed only for "no value destroyed
twice").  So a `FAIL` of `drv_mon` on an implementation line that the model's own line passes is a difference
between the implementation and the model, never an artefact of the monitor.
-/
namespace M1
namespace Mon

def modelTraceFrom (s : State) : List Op → List (Op × Obs)
  | [] => []
  | op :: r => (op, observe s op) :: modelTraceFrom (step s op).1 r

def modelTrace (ops : List Op) : List (Op × Obs) := modelTraceFrom State.init ops

theorem modelTraceFrom_getElem? : ∀ (rest pre : List Op) (i : Nat),
    (modelTraceFrom (run pre) rest)[i]? = (rest[i]?).map fun op => (op, observe (run (pre ++ rest.take i)) op) := by
  intro rest
  induction rest with
  | nil => intro pre i; simp [modelTraceFrom]
  | cons op r ih =>
    intro pre i
    cases i with
    | zero => simp [modelTraceFrom]
    | succ j =>
      simp only [modelTraceFrom, List.getElem?_cons_succ, List.take_succ_cons]
      rw [← run_snoc, ih (pre ++ [op]) j]
      simp

theorem modelTrace_getElem? (ops : List Op) (i : Nat) :
    (modelTrace ops)[i]? = (ops[i]?).map fun op => (op, observe (run (ops.take i)) op) := by
  have := modelTraceFrom_getElem? ops [] i
  simpa [modelTrace, run] using this

theorem modelTrace_length (ops : List Op) : (modelTrace ops).length = ops.length := by
  unfold modelTrace
  generalize State.init = s
  induction ops generalizing s with
  | nil => rfl
  | cons op r ih => simp [modelTraceFrom, ih]

theorem histIds_append (a b : List Op) : histIds (a ++ b) = histIds a ++ histIds b := by
  simp [histIds]

theorem freshIds_prefix {a b : List Op} (h : FreshIds (a ++ b)) : FreshIds a := by
  obtain ⟨h1, h2⟩ := h
  rw [histIds_append] at h1 h2
  exact ⟨(List.nodup_append.1 h1).1, fun i hi => h2 i (List.mem_append_left _ hi)⟩

inductive PermTrace : List (Op × Obs) → List (Op × Obs) → Prop
  | nil : PermTrace [] []
  | cons {op : Op} {o : Obs} {evs' : List Event} {l l' : List (Op × Obs)} :
      evs'.Perm o.evs → PermTrace l l' → PermTrace ((op, o) :: l) ((op, o.withEvs evs') :: l')

theorem PermTrace.refl : ∀ (l : List (Op × Obs)), PermTrace l l
  | [] => .nil
  | (_, o) :: l => .cons (o := o) (List.Perm.refl o.evs) (PermTrace.refl l)

theorem checkAll_model_perm : ∀ (rest pre : List Op) (st : MSt) (l : List (Op × Obs)), FreshIds (pre ++ rest) →
    Rel st (run pre) → PermTrace (modelTraceFrom (run pre) rest) l →
    checkAll st l = [] ∧ ∃ st' : MSt, Rel st' (run (pre ++ rest)) := by
  intro rest
  induction rest with
  | nil => intro pre st l _ hr hp; cases hp; exact ⟨rfl, st, by simpa using hr⟩
  | cons op r ih =>
    intro pre st l hf hr hp
    have hf1 : FreshIds (pre ++ [op]) := by
      apply freshIds_prefix (b := r); simpa using hf
    simp only [modelTraceFrom] at hp
    cases hp with
    | cons hperm hrest =>
      obtain ⟨h1, h2⟩ := checkOp_sound_perm pre op hf1 st hr _ hperm
      simp only [checkAll, h1, List.nil_append]
      rw [← run_snoc] at hrest
      simpa using ih (pre ++ [op]) _ _ (by simpa using hf) h2 hrest

theorem checkAll_model (rest pre : List Op) (st : MSt) (hf : FreshIds (pre ++ rest)) (hr : Rel st (run pre)) :
    checkAll st (modelTraceFrom (run pre) rest) = [] :=
  (checkAll_model_perm rest pre st _ hf hr (PermTrace.refl _)).1

end Mon

/-- **The monitor never rejects the model**: for every finite history (with distinct value identities), every check
of the monitor (`checkOp` = K1 count = owners, K2 allocator / destructor event discipline, K3 no leak, K4 gate
verdicts, K5 stored addresses, K6 union variants, K7 copy-on-write, K8 unwrapping, K9 thin ⇄ fat conversions,
K10 uninitialised views, K11 constructors, K12 counts read inside callbacks, K13 `with_arc_mut`, K14 destructor at the
last release, K15 honest iterators) passes on the model's own observations. -/
theorem monitor_accepts_model (ops : List Op) (h : FreshIds ops) : Mon.checkTrace (Mon.modelTrace ops) = [] := by
  simpa [Mon.checkTrace, Mon.modelTrace, run] using
    Mon.checkAll_model ops [] .init (by simpa using h) (by simpa [run] using Mon.rel_init)

/-- the same with the events of every op listed in ANY order — in particular sorted, as the line protocol prints them
(`obsLine` in `Driver/Hist.lean`): the monitor processes the allocations of an op first (`canonEvs`), and the rest of
its verdict does not depend on the order -/
theorem monitor_accepts_model_perm (ops : List Op) (h : FreshIds ops) (l : List (Op × Mon.Obs))
    (hp : Mon.PermTrace (Mon.modelTrace ops) l) : Mon.checkTrace l = [] := by
  simpa [Mon.checkTrace] using (Mon.checkAll_model_perm ops [] .init l (by simpa using h)
    (by simpa [run] using Mon.rel_init) (by simpa [Mon.modelTrace, run] using hp)).1

namespace Mon

/-! ## per check, for every reachable state -/

/-- K1 (C04): every count the model reports equals the number of probed slots on that block -/
theorem K1_sound (ops : List Op) (op : Op) : checkK1 (observe (run ops) op) = [] :=
  K1_state (inv_run (ops ++ [op])) (observe (run ops) op) (by rw [run_snoc]; rfl)

/-- K5 (C11): block-address kinds store 0, data-address kinds a non-zero offset that all handles of a block agree on -/
theorem K5_sound (ops : List Op) (op : Op) : checkK5 (observe (run ops) op) = [] :=
  K5_run (ops ++ [op]) _ (by rw [run_snoc]; rfl)

/-- K4 (C03): a gate answers "sole owner in the probe before the op"; a declining `try_unique` / `try_unwrap`
leaves slot and log as they were -/
theorem K4_sound_run (ops : List Op) (op : Op) :
    checkK4 (observeSlots (run ops)) op (observe (run ops) op) = [] := K4_sound (inv_run ops) op

/-- K6 (C12): an op other than `drop` / `dropAll` leaves every union handle in place, same variant, same block -/
theorem K6_sound_run (ops : List Op) (op : Op) :
    checkK6 (observeSlots (run ops)) op (observe (run ops) op) = [] := K6_sound (inv_run ops) op

/-- K7 (C08): `make_mut` / `make_unique` — a sole owner keeps its allocation without `Clone` or allocation; a shared
handle is redirected to a fresh solely-owned allocation with EXACTLY one `Clone`, the old allocation loses exactly one
owner and no other handle on it shows anything else than before; the write target shows the written value (both
unconditional: `InitInv`, `Proofs/HistInit.lean`) -/
theorem K7_sound_run (ops : List Op) (op : Op) :
    checkK7 (observeSlots (run ops)) op (observe (run ops) op) = [] :=
  K7_sound (inv_run ops) (leninv_run ops) (initinv_run ops) op

/-- K8 (C09): a granted `try_unwrap` and `into_inner` run no destructor and release the allocation; `unwrap_or_clone`
on a sole owner neither clones nor destroys, on a shared handle clones at most once and releases one owner -/
theorem K8_sound_run (ops : List Op) (op : Op) :
    checkK8 (observeSlots (run ops)) op (observe (run ops) op) = [] := K8_sound (inv_run ops) op

/-- K9 (C10): `ThinArc` ⇄ fat / raw conversions and a successful `into_thin` keep block, length, contents and owners
and emit nothing; a refused `into_thin` releases its argument -/
theorem K9_sound_run (ops : List Op) (op : Op) :
    checkK9 (observeSlots (run ops)) op (observe (run ops) op) = [] := K9_sound (inv_run ops) (leninv_run ops) op

/-- K10 (C15): dropping a handle whose view is `MaybeUninit` runs no destructor but the header's; `assume_init` is a
cast -/
theorem K10_sound_run (ops : List Op) (op : Op) :
    checkK10 (observeSlots (run ops)) op (observe (run ops) op) = [] := K10_sound (leninv_run ops) op

/-- K11 (C06): a constructor that returns a handle delivers the sole owner of one fresh allocation that shows exactly the
header and the elements handed in, in order, allocates exactly once and destroys nothing it was given -/
theorem K11_sound_run (ops : List Op) (op : Op) :
    checkK11 (observeSlots (run ops)) op (observe (run ops) op) = [] := K11_sound (inv_run ops) op

/-- K12 (C04): the count read inside a borrow callback (every API; scripts that do not replace / swap the lent Arc) is
the number of owners before the call plus the clones the callback has made so far — the borrow is not counted -/
theorem K12_sound_run (ops : List Op) (op : Op) :
    checkK12 (observeSlots (run ops)) op (observe (run ops) op) = [] := K12_sound (inv_run ops) op

/-- K13 (C03 / C10): inside `ThinArc::with_arc_mut`, `Arc::get_mut` is granted iff the allocation the transient refers to at
that moment has exactly one owner; afterwards every slot stands on the block the script left it on (the lending ThinArc
on the replacement / on what it received in a swap, also when the script panicked) -/
theorem K13_sound_run (ops : List Op) (op : Op) :
    checkK13 (observeSlots (run ops)) op (observe (run ops) op) = [] := K13_sound (inv_run ops) op

/-- K14 (C01): an op whose events free a block on which, before the op, only initialised views stood destroys — in that
same op — every value the views showed (header and elements), unless the op hands the value to the caller
(`try_unwrap` granted, `into_inner`, `unwrap_or_clone` without `Clone`); for ANY monitor state whose `pre` is the probe
of the state (the `dropped` set only excuses) -/
theorem K14_sound_run (ops : List Op) (op : Op) (st : MSt) (hpre : st.pre = observeSlots (run ops)) :
    checkK14 st op (observe (run ops) op) = [] := K14_sound (inv_run ops) (leninv_run ops) st hpre op

/-- K15 (C06): an iterator-driven constructor fed an honest script (no panic, true `len()`, one true `size_hint()` answer
— exact, lower < upper or unknown —) into a free slot does not panic, unless the layout computation for the item count
overflows -/
theorem K15_sound_run (ops : List Op) (op : Op) :
    checkK15 (observeSlots (run ops)) op (observe (run ops) op) = [] := K15_sound (run ops) op

/-- K2 + K3 (C01 / C05), with the part of the simulation they need: from a monitor state that describes `run ops`,
the event fold reports nothing, the leak check reports nothing, and the new monitor state describes the next state -/
theorem K23_sound (ops : List Op) (op : Op) (hf : FreshIds (ops ++ [op])) (st : MSt) (hr : Rel st (run ops)) :
    (k2 (observe (run ops) op) st (canonEvs (observe (run ops) op).evs)).2 = [] ∧
    checkK3 (observe (run ops) op) (k2 (observe (run ops) op) st (canonEvs (observe (run ops) op).evs)).1 = [] ∧
    Rel (checkObsOnly st (observe (run ops) op)).1 (run (ops ++ [op])) := by
  have := obsOnly_run ops op hf st hr _ (.refl _)
  rw [Obs.withEvs_self] at this
  exact ⟨this.1, this.2.1, this.2.2.2⟩

/-- some monitor state describes the model's state after every history (the one the monitor reaches along the trace) -/
theorem rel_along_trace (ops : List Op) (hf : FreshIds ops) : ∃ st : MSt, Rel st (run ops) := by
  simpa using (checkAll_model_perm ops [] .init _ (by simpa using hf) (by simpa [run] using rel_init)
    (PermTrace.refl _)).2

/-! ## non-vacuity -/

/-- the monitor accepts the model's trace of concrete histories (here by evaluation; in general by the theorem) -/
example : checkTrace (modelTrace exampleHistory) = [] := by decide +kernel

example : checkTrace (modelTrace exampleValHistory) = [] := monitor_accepts_model _ (by decide)

/-- the events of every op in reverse order: still accepted (by evaluation here, by `monitor_accepts_model_perm` in
general) -/
example : checkTrace ((modelTrace exampleValHistory).map fun x => (x.1, x.2.withEvs x.2.evs.reverse)) = [] := by decide +kernel

/-- (some op of that history has several events, so reversing them is a real permutation) -/
example : ((modelTrace exampleValHistory).any fun x => decide (2 ≤ x.2.evs.length)) = true := by decide +kernel

/-- every reported count off by one -/
def bumpCounts (x : Op × Obs) : Op × Obs :=
  (x.1, { x.2 with slots := x.2.slots.map fun e => (e.1, { e.2 with cnt := e.2.cnt.map (· + 1) }) })

/-- **the monitor REJECTS a doctored observation**: a count that is off by one is a C04 failure at the first op -/
example : (checkTrace ((modelTrace exampleHistory).map bumpCounts)).head? =
    some (Fail.countMismatch "C04" 0 0 2 1) := by decide +kernel

/-- a block freed with another size than it was requested with is a C05 failure -/
def wrongFreeSize (x : Op × Obs) : Op × Obs :=
  (x.1, { x.2 with evs := x.2.evs.map fun e => match e with
    | .dealloc b sz al => .dealloc b (sz + 8) al
    | e => e })

example : checkTrace ((modelTrace exampleHistory).map wrongFreeSize) = [Fail.freeLayout "C05" 1 16 8 24 8] := by decide +kernel

/-- a release that is not reported (the events of the op are dropped) is a leak, C01 -/
def swallowEvents (x : Op × Obs) : Op × Obs :=
  (x.1, { x.2 with evs := x.2.evs.filter fun e => match e with | .dealloc .. => false | _ => true })

example : checkTrace ((modelTrace exampleHistory).map swallowEvents) =
    [Fail.leak "C01" 1, Fail.unwrapEvents "C09" 2] := by decide +kernel

/-- a gate that says "unique" while a second owner exists is a C03 failure -/
def flipVerdict (x : Op × Obs) : Op × Obs := (x.1, { x.2 with verdict := x.2.verdict.map (!·) })

example : checkTrace ((modelTrace [.create 0 (.new ⟨1, 7⟩), .clone 1 0, .isUnique 0]).map flipVerdict) =
    [Fail.gateVerdict "C03" 0 true false] := by decide +kernel

/-! ### K7 – K10 reject what they are there to reject -/

/-- replace the observation of the LAST op of a trace -/
def doctorLast (f : Obs → Obs) : List (Op × Obs) → List (Op × Obs)
  | [] => []
  | [x] => [(x.1, f x.2)]
  | x :: r => x :: doctorLast f r

def setVals (i : Nat) (d : Dig) (o : Obs) : Obs :=
  { o with slots := o.slots.map fun e => if e.1 == i then (e.1, { e.2 with vals := some d }) else e }

def cowHistory : List Op := [.create 0 (.new ⟨1, 7⟩), .clone 1 0, .makeMut 1 5 false]

/-- the model: the shared handle is redirected, slot 0 still shows 7 -/
example : ((modelTrace cowHistory).getLast?.map fun x => x.2.slots.map fun e => (e.1, e.2.blk, e.2.vals)) =
    some [(1, 1, some ⟨none, some [some ⟨1000000, 5⟩]⟩), (0, 0, some ⟨none, some [some ⟨1, 7⟩]⟩)] := by decide +kernel

/-- **a `make_mut` on a shared handle that kept the allocation** (and wrote in place): C08, twice — not redirected,
and the write is visible through slot 0 -/
example : checkTrace (doctorLast (fun o => { o with evs := [], slots :=
      [(1, ⟨.arc, .sized, 0, 0, 1, some 2, some ⟨none, some [some ⟨1, 5⟩]⟩⟩),
       (0, ⟨.arc, .sized, 0, 0, 1, some 2, some ⟨none, some [some ⟨1, 5⟩]⟩⟩)] }) (modelTrace cowHistory)) =
    [Fail.cowKept "C08" 1 0, Fail.cowVisible "C08" 1 0] := by decide +kernel

/-- **a write visible through another handle**: everything as in the model, but slot 0 shows the written value -/
example : checkTrace (doctorLast (setVals 0 ⟨none, some [some ⟨1, 5⟩]⟩) (modelTrace cowHistory)) =
    [Fail.cowVisible "C08" 1 0] := by decide +kernel

/-- a shared `make_mut` that did not call `Clone` (the clone event is missing) -/
example : checkTrace (doctorLast (fun o => { o with evs := o.evs.filter fun e => !isCloneEv e })
      (modelTrace cowHistory)) = [Fail.cowKept "C08" 1 0] := by decide +kernel

/-- **a `try_unwrap` that also ran the destructor** of the value it handed out: C09 -/
example : checkTrace (doctorLast (fun o => { o with evs := .drop 1 :: o.evs })
      (modelTrace [.create 0 (.new ⟨1, 7⟩), .tryUnwrap 0])) = [Fail.unwrapEvents "C09" 0] := by decide +kernel

/-- an `unwrap_or_clone` on a shared handle that handed out a value without calling `Clone`: C09 -/
example : checkTrace (doctorLast (fun o => { o with evs := [] })
      (modelTrace [.create 0 (.new ⟨1, 7⟩), .clone 1 0, .unwrapOrClone 1 false])) =
    [Fail.unwrapOwners "C09" 1 0] := by decide +kernel

/-- a `make_mut` whose write is lost (the redirected handle still shows 7): C08 -/
example : checkTrace (doctorLast (setVals 1 ⟨none, some [some ⟨1000000, 7⟩]⟩) (modelTrace cowHistory)) =
    [Fail.cowLost "C08" 1 5] := by decide +kernel

/-- a redirected handle that shows NO value (a never-written slot) is rejected too — the clause is unconditional -/
example : checkTrace (doctorLast (setVals 1 ⟨none, some [none]⟩) (modelTrace cowHistory)) =
    [Fail.cowLost "C08" 1 5] := by decide +kernel

/-- a shared `make_mut` that called `Clone` twice: C08 -/
example : checkTrace (doctorLast (fun o => { o with evs := o.evs ++ [.clone 1 1000001] }) (modelTrace cowHistory)) =
    [Fail.cowKept "C08" 1 0] := by decide +kernel

/-- `InitInv` at work: an uninitialised allocation becomes an `Arc<T>` only after its slot is written, so the clone of
a shared `make_mut` finds a value -/
example : checkTrace (modelTrace [.create 0 .newUninit, .writeSlot 0 0 ⟨5, 50⟩, .conv 0 .assumeInit, .clone 1 0,
      .makeMut 1 3 false]) = [] ∧
    (step (run [.create 0 .newUninit]) (.conv 0 .assumeInit)).2.status = "bad-op" := by decide +kernel

def thinHistory : List Op := [.create 0 (.hwlFromVec ⟨9, 9⟩ 3 [⟨1, 1⟩, ⟨2, 2⟩]), .intoThin 0]

/-- the model refuses (recorded length 3, real length 2) and releases the argument -/
example : ((modelTrace thinHistory).getLast?.map fun x => (x.2.panicked, x.2.evs, x.2.slots.length)) =
    some (true, [.drop 9, .drop 1, .drop 2, .dealloc 0 40 8], 0) := by decide +kernel

/-- **an `into_thin` that panicked without releasing** its argument (the slot is still there, nothing happened): C10 -/
example : checkTrace (doctorLast (fun o => { o with evs := [], slots :=
      [(0, ⟨.arc, .hwl, 0, 0, 2, some 1, some ⟨some ⟨9, 9⟩, some [some ⟨1, 1⟩, some ⟨2, 2⟩]⟩⟩)] })
      (modelTrace thinHistory)) = [Fail.thinRefusal "C10" 0] := by decide +kernel

/-- **an element destructor run for a `MaybeUninit` view**: the written slot's value is destroyed with the handle: C15 -/
example : checkTrace (doctorLast (fun o => { o with evs := .drop 5 :: o.evs })
      (modelTrace [.create 0 (.newUninitSlice 2), .writeSlot 0 0 ⟨5, 50⟩, .drop 0])) =
    [Fail.uninitDrop "C15" 0] := by decide +kernel

/-- … the header's destructor is the one that may (must) run -/
example : checkTrace (modelTrace [.create 0 (.hsUninit ⟨4, 40⟩ 2), .writeSlot 0 0 ⟨5, 50⟩, .drop 0]) = [] ∧
    ((modelTrace [.create 0 (.hsUninit ⟨4, 40⟩ 2), .writeSlot 0 0 ⟨5, 50⟩, .drop 0]).getLast?.map (·.2.evs)) =
      some [.drop 4, .dealloc 0 32 8] := by decide +kernel

/-! ### K11 rejects what it is there to reject -/

def vecHistory : List Op := [.create 0 (.fromVec [⟨1, 10⟩, ⟨2, 20⟩, ⟨3, 30⟩])]

/-- the model: one allocation, the three elements in order, count 1 -/
example : ((modelTrace vecHistory).getLast?.map fun x => (x.2.evs, x.2.slots.map fun e => (e.1, e.2.cnt, e.2.vals))) =
    some ([.alloc 0 32 8], [(0, some 1, some ⟨none, some [some ⟨1, 10⟩, some ⟨2, 20⟩, some ⟨3, 30⟩]⟩)]) := by decide +kernel

/-- **a constructor that delivered one element too few**: C06 -/
example : checkTrace (doctorLast (setVals 0 ⟨none, some [some ⟨1, 10⟩, some ⟨2, 20⟩]⟩) (modelTrace vecHistory)) =
    [Fail.ctorContents "C06" 0] := by decide +kernel

/-- **elements in the wrong order**: C06 -/
example : checkTrace (doctorLast (setVals 0 ⟨none, some [some ⟨2, 20⟩, some ⟨1, 10⟩, some ⟨3, 30⟩]⟩)
      (modelTrace vecHistory)) = [Fail.ctorContents "C06" 0] := by decide +kernel

/-- **a constructor that destroyed a value it was given** (and still shows it): C06 -/
example : checkTrace (doctorLast (fun o => { o with evs := o.evs ++ [.drop 2] }) (modelTrace vecHistory)) =
    [Fail.ctorEvents "C06" 0] := by decide +kernel

/-- **a fresh handle that reports count 2**: C04 (one probed owner) and C06 (not the sole owner of a fresh allocation) -/
example : checkTrace (doctorLast (fun o => { o with slots := o.slots.map fun e => (e.1, { e.2 with cnt := some 2 }) })
      (modelTrace vecHistory)) = [Fail.countMismatch "C04" 0 0 2 1, Fail.ctorShared "C06" 0 0] := by decide +kernel

/-- a "fresh" handle on an allocation another slot already owns (`new` returned a clone of slot 0): C06 -/
example : checkTrace (doctorLast (fun o => { o with evs := [], slots :=
      [(1, ⟨.arc, .sized, 0, 0, 1, some 2, some ⟨none, some [some ⟨5, 50⟩]⟩⟩),
       (0, ⟨.arc, .sized, 0, 0, 1, some 2, some ⟨none, some [some ⟨1, 10⟩]⟩⟩)] })
      (modelTrace [.create 0 (.new ⟨1, 10⟩), .create 1 (.new ⟨5, 50⟩)])) =
    [Fail.ctorShared "C06" 1 0, Fail.ctorEvents "C06" 1] := by decide +kernel

/-- a header that was swapped for another value: C06 -/
example : checkTrace (doctorLast (setVals 0 ⟨some ⟨8, 9⟩, some [some ⟨1, 10⟩]⟩)
      (modelTrace [.create 0 (.hsFromVec ⟨9, 9⟩ [⟨1, 10⟩])])) = [Fail.ctorContents "C06" 0] := by decide +kernel

/-- an iterator-driven constructor that returns a handle holds ALL the items: an honest script is accepted, a handle that
shows only a prefix is rejected -/
example : checkTrace (modelTrace [.iterCtor 0 .thinFromIter (some ⟨9, 9⟩) ⟨[], [], [⟨1, 10⟩, ⟨2, 20⟩], none⟩]) = [] ∧
    checkTrace (doctorLast (setVals 0 ⟨some ⟨9, 9⟩, some [some ⟨1, 10⟩]⟩)
      (modelTrace [.iterCtor 0 .thinFromIter (some ⟨9, 9⟩) ⟨[], [], [⟨1, 10⟩, ⟨2, 20⟩], none⟩])) =
      [Fail.ctorContents "C06" 0] := by decide +kernel

/-- an iterator that under-reports its length: the model panics (the half-built block is the documented leak, the
remaining items are dropped with the iterator) — nothing for K11 to check, and the trace is accepted -/
example : checkTrace (modelTrace [.iterCtor 0 .hsFromIter (some ⟨9, 9⟩) ⟨[1], [], [⟨1, 10⟩, ⟨2, 20⟩], none⟩]) = [] ∧
    ((modelTrace [.iterCtor 0 .hsFromIter (some ⟨9, 9⟩) ⟨[1], [], [⟨1, 10⟩, ⟨2, 20⟩], none⟩]).getLast?.map
      fun x => (x.2.panicked, x.2.slots.length)) = some (true, 0) := by decide +kernel

/-- the `new_uninit*` family: the view is `MaybeUninit` (`-`), only the header is shown -/
example : checkTrace (modelTrace [.create 0 (.hsUninit ⟨4, 40⟩ 2), .create 1 (.newUninitSlice 3), .create 2 .newUninit]) = [] ∧
    checkTrace (doctorLast (setVals 0 ⟨some ⟨4, 41⟩, none⟩) (modelTrace [.create 0 (.hsUninit ⟨4, 40⟩ 2)])) =
      [Fail.ctorContents "C06" 0] := by decide +kernel

/-! ### K12 / K13 reject what they are there to reject -/

def setToks (t : List CbTok) (o : Obs) : Obs := { o with cbToks := t }

def setBlk (i b : Nat) (o : Obs) : Obs :=
  { o with slots := o.slots.map fun e => if e.1 == i then (e.1, { e.2 with blk := b }) else e }

/-- two ThinArcs: slot 0 on b0, slot 1 on b1 -/
def thinPair : List Op :=
  [.create 0 (.hwlFromVec ⟨9, 9⟩ 1 [⟨1, 1⟩]), .intoThin 0, .create 1 (.hwlFromVec ⟨8, 8⟩ 1 [⟨2, 2⟩]), .intoThin 1]

def withArcHistory : List Op := thinPair ++ [.withCb 0 .thinWithArc [.cnt, .cloneTo 2, .cnt]]

/-- the model: inside `with_arc` the count is 1 (the transient is not counted), 2 after the clone -/
example : ((modelTrace withArcHistory).getLast?.map (·.2.cbToks)) = some [.cnt 1, .cloned, .cnt 2] := by decide +kernel

/-- **a count read inside `with_arc` that is one too high** (the transient Arc was counted): C04 -/
example : checkTrace (doctorLast (setToks [.cnt 2, .cloned, .cnt 3]) (modelTrace withArcHistory)) =
    [Fail.cbCount "C04" 0 2 1] := by decide +kernel

/-- the first read is right, the clone made inside the callback is not seen by the second: C04 -/
example : checkTrace (doctorLast (setToks [.cnt 1, .cloned, .cnt 1]) (modelTrace withArcHistory)) =
    [Fail.cbCount "C04" 0 1 2] := by decide +kernel

/-- `with_raw_offset_arc`: the same, tagged C04 and C11; accessors that disagree are rejected as such -/
example : checkTrace (doctorLast (setToks [.cnt 3, .cloned, .cnt 4])
      (modelTrace [.create 0 (.new ⟨1, 7⟩), .clone 1 0, .withCb 0 .rawOffset [.cnt, .cloneArcTo 2, .cnt]])) =
    [Fail.cbCount "C04" 0 3 2, Fail.cbCount "C11" 0 3 2] ∧
    checkTrace (doctorLast (setToks [.cntBad])
      (modelTrace [.create 0 (.new ⟨1, 7⟩), .withCb 0 .borrowWithArc [.cnt]])) = [Fail.cbCountSplit "C04" 0] := by decide +kernel

def getMutHistory : List Op := thinPair ++ [.withCb 0 .thinWithArcMut [.cloneTo 2, .getMutWrite 5]]

/-- the model: after the clone made in the same callback `get_mut` declines -/
example : ((modelTrace getMutHistory).getLast?.map (·.2.cbToks)) = some [.cloned, .mutNone] := by decide +kernel

/-- **a `get_mut` inside `with_arc_mut` granted while a clone made earlier in the same callback exists**: C03 -/
example : checkTrace (doctorLast (setToks [.cloned, .mutSome]) (modelTrace getMutHistory)) =
    [Fail.cbMut "C03" 0 true 0 2] := by decide +kernel

/-- a `get_mut` refused on the sole owner; and one refused after the shared Arc was REPLACED by a solely owned one
(slot 2 shares b0, slot 1 is the only owner of b1) -/
example : checkTrace (doctorLast (setToks [.mutNone]) (modelTrace (thinPair ++ [.withCb 0 .thinWithArcMut [.getMutWrite 5]]))) =
      [Fail.cbMut "C03" 0 false 0 1] ∧
    ((modelTrace (thinPair ++ [.clone 2 0, .withCb 0 .thinWithArcMut [.getMutWrite 4, .replaceWith 1, .getMutWrite 5]])).getLast?.map
      (·.2.cbToks)) = some [.mutNone, .replaced, .mutSome] ∧
    checkTrace (doctorLast (setToks [.mutNone, .replaced, .mutNone])
      (modelTrace (thinPair ++ [.clone 2 0, .withCb 0 .thinWithArcMut [.getMutWrite 4, .replaceWith 1, .getMutWrite 5]]))) =
      [Fail.cbMut "C03" 0 false 1 1] := by decide +kernel

def replaceHistory : List Op := thinPair ++ [.withCb 0 .thinWithArcMut [.replaceWith 1, .getMutWrite 5]]

/-- the model: the lender's old allocation b0 is released, slot 1's ThinArc moved into the lender: slot 0 stands on b1 -/
example : ((modelTrace replaceHistory).getLast?.map fun x => (x.2.cbToks, x.2.evs, x.2.slots.map fun e => (e.1, e.2.blk))) =
    some ([.replaced, .mutSome], [.drop 9, .drop 1, .dealloc 0 32 8], [(0, 1)]) := by decide +kernel

/-- **a ThinArc that still points at the old block after `replace`** (no write-back): the freed b0 is still referred to,
b1 is leaked (C01), and C10: slot 0 should stand on b1 -/
example : checkTrace (doctorLast (setBlk 0 0) (modelTrace replaceHistory)) =
    [Fail.freeOwned "C01" 0 1, Fail.leak "C01" 1, Fail.cbPosition "C10" 0 1 (some 0)] := by decide +kernel

/-- a swap whose write-back is lost when the callback panics (both ThinArcs stand where they stood): only K13 sees it -/
example : ((modelTrace (thinPair ++ [.withCb 0 .thinWithArcMut [.swapWith 1, .panic]])).getLast?.map
      fun x => (x.2.panicked, x.2.cbToks, x.2.slots.map fun e => (e.1, e.2.blk))) = some (true, [.swapped], [(1, 0), (0, 1)]) ∧
    checkTrace (doctorLast (fun o => setBlk 0 0 (setBlk 1 1 o))
      (modelTrace (thinPair ++ [.withCb 0 .thinWithArcMut [.swapWith 1, .panic]]))) =
      [Fail.cbPosition "C10" 1 0 (some 1), Fail.cbPosition "C10" 0 1 (some 0)] := by decide +kernel

/-- accepted by evaluation: clone / replace / swap / get_mut / panic mixed, target slots occupied (`skip`) -/
example : checkTrace (modelTrace (thinPair ++ [.clone 2 0,
      .withCb 0 .thinWithArcMut [.cnt, .cloneTo 1, .cloneTo 3, .getMutWrite 1, .swapWith 1, .getMutWrite 2, .replaceWith 3,
        .getMutWrite 3, .replaceWith 0, .swapWith 7, .read, .panic, .cnt]])) = [] := by decide +kernel


/-! ### K14 / K15 reject what they are there to reject -/

/-- the observation without its destructor events -/
def noDrops (o : Obs) : Obs := { o with evs := o.evs.filter fun e => !isDropEv e }

/-- the model: the last `drop` of an `Arc` destroys the value, then frees the block -/
example : ((modelTrace [.create 0 (.new ⟨1, 7⟩), .clone 1 0, .drop 0, .drop 1]).getLast?.map (·.2.evs)) =
    some [.drop 1, .dealloc 0 16 8] := by decide +kernel

/-- **the last drop of an `Arc` frees the block without running the destructor of its value**: C01 (only K14 sees it) -/
example : checkTrace (doctorLast noDrops (modelTrace [.create 0 (.new ⟨1, 7⟩), .clone 1 0, .drop 0, .drop 1])) =
    [Fail.lastNoDrop "C01" 0 1] := by decide +kernel

/-- **a refused `into_thin` of the last owner that frees the block but destroys only the header**: C01 for both elements -/
example : checkTrace (doctorLast (fun o => { o with evs := [.drop 9, .dealloc 0 40 8] }) (modelTrace thinHistory)) =
    [Fail.lastNoDrop "C01" 0 1, Fail.lastNoDrop "C01" 0 2] := by decide +kernel

/-- `dropAll` that frees a shared header + slice without destroying anything; a `replace` inside `with_arc_mut` that frees
the lender's old allocation without destroying its contents -/
example : checkTrace (doctorLast noDrops
      (modelTrace [.create 0 (.hsFromVec ⟨9, 9⟩ [⟨1, 1⟩, ⟨2, 2⟩]), .clone 1 0, .dropAll])) =
      [Fail.lastNoDrop "C01" 0 9, Fail.lastNoDrop "C01" 0 1, Fail.lastNoDrop "C01" 0 2] ∧
    checkTrace (doctorLast noDrops (modelTrace replaceHistory)) =
      [Fail.lastNoDrop "C01" 0 9, Fail.lastNoDrop "C01" 0 1] := by decide +kernel

/-- mixed views of one block: the `MaybeUninit` view is released last, the element is (rightly) not destroyed — K14 does
not apply (not every view was initialised), the trace is accepted -/
example : checkTrace (modelTrace [.create 0 .newUninit, .writeSlot 0 0 ⟨1, 1⟩, .clone 2 0, .conv 0 .assumeInit, .dropAll]) = [] ∧
    ((modelTrace [.create 0 .newUninit, .writeSlot 0 0 ⟨1, 1⟩, .clone 2 0, .conv 0 .assumeInit, .dropAll]).getLast?.map
      (·.2.evs)) = some [.dealloc 0 16 8] := by decide +kernel

/-- the value handed to the caller is not destroyed: `try_unwrap`, `into_inner`, `unwrap_or_clone` are accepted -/
example : checkTrace (modelTrace [.create 0 (.new ⟨1, 7⟩), .tryUnwrap 0, .create 1 (.uniqueNew ⟨2, 7⟩), .intoInner 1,
      .create 2 (.new ⟨3, 7⟩), .unwrapOrClone 2 false]) = [] := by decide +kernel

/-- an honest 2-item script: accepted in all three `size_hint` regimes (exact, lower < upper, unknown upper bound) -/
example : checkTrace (modelTrace [.iterCtor 0 .fromIter none ⟨[2], [(2, some 2)], [⟨1, 10⟩, ⟨2, 20⟩], none⟩,
      .iterCtor 1 .fromIter none ⟨[], [(1, some 5), (1, some 5)], [⟨3, 10⟩, ⟨4, 20⟩], none⟩,
      .iterCtor 2 .uniqueFromIter none ⟨[], [(0, none)], [⟨5, 10⟩, ⟨6, 20⟩], none⟩]) = [] := by decide +kernel

/-- **an honest 2-item `from_iter` script answered with `panic:size-hint`** (the items dropped with the iterator): C06 -/
example : checkTrace (doctorLast (fun o => { o with panicked := true, evs := [.drop 1, .drop 2], slots := [] })
      (modelTrace [.iterCtor 0 .fromIter none ⟨[], [(2, some 2)], [⟨1, 10⟩, ⟨2, 20⟩], none⟩])) =
    [Fail.honestPanic "C06" 0] := by decide +kernel

/-- a lying script (the `size_hint` answer changes between calls) may panic: not K15's business -/
example : checkTrace (modelTrace [.iterCtor 0 .fromIter none ⟨[], [(2, some 2), (2, some 3)], [⟨1, 10⟩, ⟨2, 20⟩], none⟩]) = [] ∧
    ((modelTrace [.iterCtor 0 .fromIter none ⟨[], [(2, some 2), (2, some 3)], [⟨1, 10⟩, ⟨2, 20⟩], none⟩]).getLast?.map
      (·.2.panicked)) = some true := by decide +kernel

#print axioms monitor_accepts_model
#print axioms monitor_accepts_model_perm
#print axioms K1_sound
#print axioms K23_sound
#print axioms K4_sound_run
#print axioms K5_sound
#print axioms K6_sound_run
#print axioms K7_sound_run
#print axioms K8_sound_run
#print axioms K9_sound_run
#print axioms K10_sound_run
#print axioms K11_sound_run
#print axioms K12_sound_run
#print axioms K13_sound_run
#print axioms K14_sound_run
#print axioms K15_sound_run
#print axioms step_free_drops
#print axioms runCb_out
#print axioms observe_cbToks_out
#print axioms initinv_run
#print axioms init_view_written
#print axioms step_grow
#print axioms step_keep

end Mon
end M1
