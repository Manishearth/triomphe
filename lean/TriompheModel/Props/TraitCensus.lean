import TriompheModel.Generated.Impls
/-!
# Census of overridden provided trait methods (Tie A for C04, C12, C14, C16)

The correspondence harnesses call the *required* methods of the handle types' trait impls and the provided
methods the crate overrides today (`ne` for Arc / ArcBorrow / OffsetArc, `lt le gt ge` for Arc).  A provided
method that is NOT overridden is the standard library's / serde's / arc-swap's default, expressed through the
required ones — so what the harnesses establish for `eq`, `partial_cmp`, `clone`, `deserialize`, `into_ptr` …
carries over to `ne`, `clone_from`, `deserialize_in_place`, `RefCnt::inc` ….  An override is a new entry point
with its own body: this obligation demands that the set of overrides is exactly the known one, re-extracted
from the source on every run (`Generated.implForms`, by evaluation in the kernel).
-/
namespace TraitCensus

/-- provided methods of the traits the handle types implement -/
def provided : List (String × String) :=
  [("PartialEq", "ne"), ("PartialOrd", "lt"), ("PartialOrd", "le"), ("PartialOrd", "gt"), ("PartialOrd", "ge"),
   ("Ord", "max"), ("Ord", "min"), ("Ord", "clamp"), ("Hash", "hash_slice"), ("Clone", "clone_from"),
   ("Deserialize", "deserialize_in_place"), ("RefCnt", "inc"), ("RefCnt", "dec"),
   ("Debug", "fmt_"), ("Default", "default_")]

def overrides : List (String × String × String) :=
  (Generated.implForms.filter (fun r => provided.contains (r.trait_, r.method))).map
    (fun r => (r.trait_, r.selfHead, r.method))

/-- the overrides the harnesses exercise directly (cmp.rs / the `cmp` history op call every operator) -/
def expected : List (String × String × String) :=
  [("PartialEq", "Arc", "ne"), ("PartialOrd", "Arc", "lt"), ("PartialOrd", "Arc", "le"), ("PartialOrd", "Arc", "gt"),
   ("PartialOrd", "Arc", "ge"), ("PartialEq", "ArcBorrow", "ne"), ("PartialEq", "OffsetArc", "ne")]

def censusOk : Bool :=
  overrides.all (fun o => expected.contains o) && expected.all (fun e => overrides.contains e)

/-- **no provided trait method is overridden beyond the known, exercised ones** -/
theorem obl_provided_method_overrides : censusOk = true := by decide +kernel

/-- the required methods the harnesses drive exist: `Clone::clone` for `Arc`, `ArcBorrow`, `ArcUnion`, `OffsetArc`,
`ThinArc` and `RefCnt`'s three methods for `Arc` and `ThinArc` -/
def requiredPresent : Bool :=
  ["Arc", "ArcBorrow", "ArcUnion", "OffsetArc", "ThinArc"].all (fun t =>
    Generated.implForms.any (fun r => r.trait_ == "Clone" && r.selfHead == t && r.method == "clone")) &&
  ["Arc", "ThinArc"].all (fun t => ["into_ptr", "as_ptr", "from_ptr"].all (fun m =>
    Generated.implForms.any (fun r => r.trait_ == "RefCnt" && r.selfHead == t && r.method == m)))
theorem obl_required_methods_present : requiredPresent = true := by decide +kernel

end TraitCensus
