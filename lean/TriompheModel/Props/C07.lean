import TriompheModel.Proofs.HistVal
/-!
# C07 — panicking or lying callbacks cause no double drop and no uninitialised read

(a) iterators: Props/C07Iter.lean (every script: any lie, a panic at any call).
(b) callbacks and `Clone`: here — what a panic at any point of a callback script, or in `Clone`,
leaves behind; that every surviving handle is then still valid with an accurate count is the
invariant `M1.Inv`, preserved by `step` for EVERY op including these (Proofs/HistInv.lean).
-/
namespace M1
namespace C07

/-- **a panic in `Clone` inside `make_mut` / `make_unique`** happens before anything is assigned:
the state is exactly what it was -/
theorem C07_make_mut_clone_panic (s : State) (src v : Nat) (h : HV) (hs : lookup s src = some h)
    (hk : h.kind = .arc) (hty : h.ty = .sized) (hu : Arc.is_unique s.mem h = false) :
    step s (.makeMut src v true) = (s, panicked "scripted") ∧
    step s (.makeUnique src v true) = (s, panicked "scripted") := by
  simp [step, hs, hk, hty, Arc.make_mut, hu]

/-- **`OffsetArc::make_mut`**: the transient `Arc` is in a `ManuallyDrop`, so a panicking `Clone`
leaves the OffsetArc and the count untouched -/
theorem C07_offset_make_mut_clone_panic (s : State) (src v : Nat) (h : HV) (hs : lookup s src = some h)
    (hk : h.kind = .offset) (hu : Arc.is_unique s.mem (Arc.from_raw_offset s.mem h) = false) :
    step s (.makeMut src v true) = (s, panicked "scripted") := by
  simp [step, hs, hk, Arc.make_mut, hu]

/-- **a callback that panics immediately** leaves the state as it was: the transient handle lent to
it is never dropped (`ManuallyDrop`), so the count is not touched -/
theorem C07_cb_panic_first (api : CbApi) (src : Nat) (rest : List CbAct) (s : State) (t : HV) (acc : String) :
    runCb api src (.panic :: rest) s t acc = (s, panicked "scripted" acc) := by
  simp [runCb]

/-- a panic after an action keeps exactly the effect of that action, here for a clone made by the
callback: it stays owned by the slot it was put in (any script, one action at a time: `runCb_cons`,
Proofs/CbStep.lean) -/
theorem C07_cb_panic_after_clone (api : CbApi) (src k : Nat) (rest : List CbAct) (s : State) (t : HV) (acc : String)
    (hk : lookup s k = none) (m : Mem) (c : HV) (hc : cloneHandle s.mem t = some (m, c)) (hapi : api ≠ .thinWithArcMut) :
    runCb api src (.cloneTo k :: .panic :: rest) s t acc = (s.put m k c, panicked "scripted" (acc ++ "cloned;")) := by
  simp [runCb, hk, hc, hapi]

/-- **every value is destroyed at most once, whatever panics or lies**: along any history that hands
in fresh identities (`FreshIds`) — panics injected at any `next()` call, any `Clone`, any callback
action; lengths and hints changing between calls — the destroyed identities are pairwise distinct -/
theorem C07_destroyed_at_most_once (ops : List Op) (h : FreshIds ops) : (dropIds (run ops).mem.log).Nodup :=
  drop_at_most_once ops h

/-- **every surviving handle is valid with an accurate count**: after any such history every handle
in the table points to a live, non-abandoned block whose count word is the number of owners -/
theorem C07_survivors_valid (ops : List Op) (i : Nat) (h : HV) (hl : lookup (run ops) i = some h) :
    loadCount (run ops).mem h.blk = owners (run ops) h.blk ∧
    ∃ k, (run ops).mem.blocks[h.blk]? = some k ∧ k.live = true ∧ k.leaked = false :=
  count_eq_owners (inv_run ops) hl

/-- **the last release destroys exactly what is stored**: on the release primitive `decr`, for a block
with count 1 and an initialised view that sees every slot, the identities destroyed are those of the
header and of the written slots, in order, and nothing else.  (An unwritten slot under such a view
would show as a `dropUninit` event, which `dropIds` does not count; that an initialised view only
ever stands on a fully written block is the invariant `InitInv`, Proofs/HistInit.lean.) -/
theorem C07_release_drops_exactly_the_stored (m : Mem) (b : Nat) (t : Ty) (len : Nat) (k : Block)
    (hk : m.blocks[b]? = some k) (hc : k.count = 1) (ht : t.elemsInit = true) (hlen : k.elems.length ≤ len) :
    dropIds (decr m b t len).log = dropIds m.log ++ k.ids :=
  decr_last_drops_exactly m b t len k hk hc ht hlen

/-- the only tolerated loss: what an abandoned half-built block stores is never destroyed (and
never referred to) -/
theorem C07_abandoned_block_untouched (ops : List Op) (h : FreshIds ops) (b : Nat) (k : Block)
    (hk : (run ops).mem.blocks[b]? = some k) (hlk : k.leaked = true) (hlv : k.live = true) :
    owners (run ops) b = 0 ∧ ∀ i, i ∈ k.ids → i ∉ dropIds (run ops).mem.log :=
  ⟨leaked_unowned (inv_run ops) hk hlk, live_values_not_destroyed ops h b k hk hlv⟩

/-! ### allocator failure

`try_allocate_for_layout` checks the pointer returned by `alloc` for null *before* anything is written
through it and reports `Err(())`; `allocate_for_layout` turns that into `handle_alloc_error(layout)`,
which never returns.  The history model has no failing allocator: `runCtor` and `runIterCtor` allocate with
`allocBlock`, which always succeeds.  `allocOrFail` below only writes down the convention that a failed
allocation is an outcome with NO effect on memory; no function of the model calls it, and the two theorems
hold by unfolding it.  What ties the convention to the code is the fault-enumeration pass of the check (one
child process per constructor and per allocation index): the process must end through the allocation-error
path. -/

/-- `allocBlock` behind an allocator that may report failure: the memory as it was on failure -/
def allocOrFail (m : Mem) (fails : Bool) (lay : LY.Layout) (hdr : Option Item) (rl : Option Nat)
    (el : List (Option Item)) : Except Mem (Mem × Nat) :=
  if fails then .error m else .ok (allocBlock m lay hdr rl el)

/-- **on allocation failure nothing is written**: the failing case of `allocOrFail` returns the memory
before the call, bit for bit (by definition of `allocOrFail`) -/
theorem C07_alloc_failure_no_write (m : Mem) (lay : LY.Layout) (hdr : Option Item) (rl : Option Nat)
    (el : List (Option Item)) : allocOrFail m true lay hdr rl el = .error m := rfl

theorem C07_alloc_success_is_allocBlock (m : Mem) (lay : LY.Layout) (hdr : Option Item) (rl : Option Nat)
    (el : List (Option Item)) : allocOrFail m false lay hdr rl el = .ok (allocBlock m lay hdr rl el) := rfl

end C07
end M1
