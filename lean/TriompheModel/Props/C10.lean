import TriompheModel.Proofs.HistLen
/-!
# C10 — a ThinArc is an exact one-word stand-in for the fat Arc

`ThinArc.thick` is `thin_to_thick` + `from_raw_inner` (the slice length is read from the length word
stored in the block); `ThinArc.of_arc` is the pointer cast of `protected_into_thin`.  The theorems
hold for every memory and every handle value.
-/
namespace M1
namespace C10

/-- a thin handle as the safe API produces it: one word, pointing at the block start -/
def ThinWF (t : HV) : Prop := t.kind = .thin ∧ t.ty = .hwl ∧ t.len = 0

/-- **thin → fat → thin returns the same word** and touches neither memory nor the count -/
theorem C10_roundtrip_thin (m : Mem) (t : HV) (h : ThinWF t) : ThinArc.of_arc (ThinArc.thick m t) = t := by
  cases t
  obtain ⟨rfl, rfl, rfl⟩ := h
  rfl

/-- **fat → thin → fat returns the same fat pointer** when the recorded length equals the fat
pointer's length — which `into_thin` checks -/
theorem C10_roundtrip_fat (m : Mem) (a : HV) (hk : a.kind = .arc) (hty : a.ty = .hwl)
    (hrec : ((m.blocks[a.blk]?.bind (·.recLen))).getD 0 = a.len) :
    ThinArc.thick m (ThinArc.of_arc a) = a := by
  cases a
  cases hk; cases hty
  -- the length `thick` reads back is the recorded one
  exact congrArg (HV.mk _ _ _ _) hrec

/-- **same view**: dereferencing the thin handle shows the same header, the same number of
elements and the same elements as the fat Arc it stands for, at the same block -/
theorem C10_thin_eq_fat_view (m : Mem) (t : HV) (h : ThinWF t) :
    viewLen m (ThinArc.thick m t) = viewLen m t ∧ digest m (ThinArc.thick m t) = digest m t ∧
    (ThinArc.thick m t).blk = t.blk ∧ (ThinArc.thick m t).off = t.off := by
  cases t
  obtain ⟨rfl, rfl, rfl⟩ := h
  -- `thick` carries the length the thin view reads, and `digest` looks at block, type and that length
  exact ⟨rfl, rfl, rfl, rfl⟩

/-- **`into_thin` accepts an Arc whose recorded length is right**, by a cast (memory untouched, so the
count is unchanged); it refuses every other one: `C10_mismatch_refused_and_released` -/
theorem C10_into_thin_ok (m : Mem) (a : HV)
    (hrec : ((m.blocks[a.blk]?.bind (·.recLen))).getD 0 = a.len) :
    Arc.into_thin m a = (m, some (ThinArc.of_arc a)) :=
  (into_thin_eq m a).trans (if_pos hrec)

/-- **a mismatch is refused with a panic that still releases the argument**: the only effect on
memory is one `Arc::drop` of that Arc -/
theorem C10_mismatch_refused_and_released (m : Mem) (a : HV)
    (hrec : ((m.blocks[a.blk]?.bind (·.recLen))).getD 0 ≠ a.len) :
    Arc.into_thin m a = (Arc.drop m a, none) :=
  (into_thin_eq m a).trans (if_neg hrec)

/-- at the op level: a refused `intoThin` removes exactly that slot -/
theorem C10_step_into_thin_mismatch (s : State) (src : Nat) (h : HV) (hs : lookup s src = some h)
    (hk : h.kind = .arc) (hty : h.ty = .hwl)
    (hrec : ((s.mem.blocks[h.blk]?.bind (·.recLen))).getD 0 ≠ h.len) :
    step s (.intoThin src) = (s.del (Arc.drop s.mem h) src, panicked "length-mismatch") := by
  simp only [step, hs, if_pos (And.intro hk hty), C10_mismatch_refused_and_released _ _ hrec]

/-- **clone and drop of a ThinArc are the fat Arc's**, on the same block -/
theorem C10_thin_clone_drop (m : Mem) (t : HV) :
    ThinArc.clone m t = (incr m t.blk, ThinArc.of_arc { ThinArc.thick m t with kind := .arc }) ∧
    ThinArc.drop m t = decr m t.blk .hwl (viewLen m (ThinArc.thick m t)) :=
  ⟨rfl, rfl⟩

example : ThinWF ⟨.thin, .hwl, 3, 0, 0⟩ := ⟨rfl, rfl, rfl⟩

/-- **the length invariant.**  For every ThinArc (or raw thin pointer) obtainable through ANY
history of the op language — i.e. through the safe API, incl. `with_arc_mut` callbacks that clone,
mutate, replace or panic, lying iterators, refused `into_thin`s — the length stored in the
allocation equals the real slice length. -/
theorem C10_len_invariant (ops : List Op) (i : Nat) (h : HV) (hl : lookup (run ops) i = some h)
    (hk : h.kind = .thin ∨ h.kind = .rawThin) :
    ∃ k, (run ops).mem.blocks[h.blk]? = some k ∧ k.recLen = some k.elems.length :=
  thin_len_correct ops i h hl hk

/-- … and every fat slice handle's pointer metadata is the real length too -/
theorem C10_fat_len (ops : List Op) (i : Nat) (h : HV) (hl : lookup (run ops) i = some h) :
    ∃ k, (run ops).mem.blocks[h.blk]? = some k ∧ viewLen (run ops).mem h = k.elems.length :=
  let ⟨k, hk, hv, _⟩ := (leninv_run ops).viewLen_eq hl
  ⟨k, hk, hv⟩

end C10
end M1
