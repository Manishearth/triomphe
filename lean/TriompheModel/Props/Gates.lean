import TriompheModel.WM.Later
import TriompheModel.Generated.Atomics
/-!
Obligations on the *generated* gate facts shared by C03, C08 and C09: every count load that a
uniqueness gate can reach through the crate-local call graph is at least Acquire, the verdict comes
from `Arc::is_unique`, and `is_unique` compares the count with the literal 1.  Each is proved by evaluation in the
kernel, on constants the translator regenerates from `/repo/src` on every run.
-/
open Facts WM
namespace Gates

/-- the gate is present, reaches a count load, every load it reaches is an acquire, and its verdict
is `Arc::is_unique`'s -/
def gateOk (name : String) : Bool :=
  Generated.gates.any (fun g => g.name == name && !g.loads.isEmpty && g.loads.all (·.isAcq) && g.viaIsUnique)

/-! each gate of the crate, once (a finite table fact: kernel evaluation); C02, C03, C08 and C09 cite these -/
theorem gate_is_unique : gateOk "Arc::is_unique" = true := by decide +kernel
theorem gate_get_mut : gateOk "Arc::get_mut" = true := by decide +kernel
theorem gate_get_unique : gateOk "Arc::get_unique" = true := by decide +kernel
theorem gate_try_unique : gateOk "Arc::try_unique" = true := by decide +kernel
theorem gate_try_as_unique : gateOk "Arc::try_as_unique" = true := by decide +kernel
theorem gate_try_unwrap : gateOk "Arc::try_unwrap" = true := by decide +kernel
theorem gate_unwrap_or_clone : gateOk "Arc::unwrap_or_clone" = true := by decide +kernel
theorem gate_try_from : gateOk "UniqueArc::try_from" = true := by decide +kernel
theorem gate_make_mut : gateOk "Arc::make_mut" = true := by decide +kernel
theorem gate_make_unique : gateOk "Arc::make_unique" = true := by decide +kernel
theorem gate_offset_make_mut : gateOk "OffsetArc::make_mut" = true := by decide +kernel
theorem gate_write : gateOk "Arc::write" = true := by decide +kernel
theorem gate_as_mut_slice : gateOk "Arc::as_mut_slice" = true := by decide +kernel
theorem gate_must_be_unique : gateOk "must_be_unique" = true := by decide +kernel

/-- `is_unique` is "count == 1" -/
theorem obl_verdict_is_eq_one : Generated.isUniqueGuard = ⟨.eq, some 1⟩ := by decide +kernel
/-- the decrement every former sharer performed is a release (what the gate's acquire pairs with) -/
theorem obl_dec_release : Generated.decOrd.isRel = true := by decide +kernel
/-- no gate anywhere reaches a non-acquire load -/
theorem obl_no_weak_gate : Generated.gates.all (fun g => g.loads.all (·.isAcq)) = true := by decide +kernel

theorem acq_of_gateOk {name : String} (h : gateOk name = true) {o : MemOrd}
    (ho : ∀ g ∈ Generated.gates, g.name = name → o ∈ g.loads) : o.isAcq = true := by
  obtain ⟨g, hg, hp⟩ := List.any_eq_true.1 h
  simp only [Bool.and_eq_true, beq_iff_eq, List.all_eq_true] at hp
  exact hp.1.2 o (ho g hg hp.1.1.1)

variable {X : CountExec} {fenceOrd : Option MemOrd}

/-- **Exclusivity after a successful verdict**, at the orderings found in the source: if a count
load made by gate `name` through handle `h` returns 1, every access ever made through any other
handle that existed where the load read from happens-before the load — hence before the mutable
access / move that the verdict licenses.  Holds for every consistent execution. -/
theorem exclusive_after_verdict {name : String} (hg : gateOk name = true)
    (hc : Consistent X) (hp : Protocol X Generated.decOrd fenceOrd) (hrw : CoRW X) (hvb : ViaBorn X)
    {l : X.A} {h : H} {o : MemOrd} {rf : Option Nat}
    (hl : X.kind l = .load h o rf)
    (ho : ∀ g ∈ Generated.gates, g.name = name → o ∈ g.loads)
    (hone : valRead X.ops rf = 1) :
    ∀ (a : X.A) (h' : H), (X.kind a).via = some h' → h' ≠ h →
      (h' = 0 ∨ ∃ j, rf = some j ∧ h' ∈ kids (X.ops.take (j+1))) → X.hb (.oth a) (.oth l) :=
  unique_verdict_exclusive hc hp hrw hvb obl_dec_release hl (acq_of_gateOk hg ho) hone

/-- **No access through another handle is concurrent with the granted write**, at the orderings found in
the source: with respect to a gate `name` that saw the count 1 through `h` and the write `w` it
grants, every other handle is either a former sharer (all its accesses happen-before the write) or a
later sharer — created beyond the point the gate read from, hence a descendant of `h` made after the
`&mut` borrow ended (`MutExcl`) — all of whose accesses happen-after the write. -/
theorem no_concurrent_access_after_verdict {name : String} (hg : gateOk name = true)
    (hc : Consistent X) (hp : Protocol X Generated.decOrd fenceOrd) (hrw : CoRW X) (hvb : ViaBorn X)
    {l w : X.A} {h : H} {o : MemOrd} {rf : Option Nat}
    (hl : X.kind l = .load h o rf)
    (ho : ∀ g ∈ Generated.gates, g.name = name → o ∈ g.loads)
    (hone : valRead X.ops rf = 1) (hlw : X.hb (.oth l) (.oth w)) (hex : MutExcl X l w h) :
    ∀ (a : X.A) (h' : H), (X.kind a).via = some h' → h' ≠ h →
      X.hb (.oth a) (.oth w) ∨ X.hb (.oth w) (.oth a) :=
  no_access_concurrent_with_granted_write hc hp hrw hvb obl_dec_release hl (acq_of_gateOk hg ho) hone hlw hex

end Gates
