import TriompheModel.WM.OwnershipExamples
/-!
# C04 under schedules: what a concurrent reader of the count can see

C04 is quantified over histories (`Props/C04.lean`).  This file adds what the axiomatic model M4 says about a reader that runs
*concurrently* with clones and drops in other threads (the observer of the litmus program `convert_vs_count_observer`): whatever
write the load reads from, the value is the number of handles that are alive after that write — born at or before it and not
yet released at it — and, read through an owning handle, it counts that handle: it is never 0 and never the count of a state in
which the reader's own handle is gone.  So a conversion implemented as clone-then-release (or release-then-clone) is visible to
such a reader exactly as a state with one owner more (or less) in the modification order; a conversion that does not touch the
word contributes no such state.
-/
open Facts WM
namespace C04

variable {X : CountExec} {decOrd : MemOrd} {fenceOrd : Option MemOrd}

/-- **every value the count word ever holds is a number of live handles**: for every point of the modification order -/
theorem C04_every_read_counts_live_handles (hc : Consistent X) (hp : Protocol X decOrd fenceOrd) (rf : Option Nat) :
    valRead X.ops rf = ((run (seenPrefix X.ops rf)).live.length : Int) ∧
    (run (seenPrefix X.ops rf)).live.Nodup ∧
    (∀ h, h ∈ (run (seenPrefix X.ops rf)).live ↔
      h ∈ (run (seenPrefix X.ops rf)).born ∧ h ∉ deads (seenPrefix X.ops rf)) := by
  have hw : WF (seenPrefix X.ops rf) := by rw [seenPrefix_eq]; exact wf_take hc hp _
  refine ⟨?_, (inv_run hw).nodup, (live_iff hw).1⟩
  rw [valRead_eq, ← seenPrefix_eq]
  exact (inv_run hw).val

/-- the reader's own handle is alive in the state it reads -/
theorem C04_reader_is_counted (hc : Consistent X) (hp : Protocol X decOrd fenceOrd) (hrw : CoRW X) (hvb : ViaBorn X)
    {l : X.A} {h : H} {o : MemOrd} {rf : Option Nat} (hl : X.kind l = .load h o rf) :
    h ∈ (run (seenPrefix X.ops rf)).live := by
  rw [seenPrefix_eq]
  exact reader_live hc hp hvb hl (not_released_before hp hrw hl)

/-- **a count read through an owning handle is at least 1**, under every schedule -/
theorem C04_read_through_owner_positive (hc : Consistent X) (hp : Protocol X decOrd fenceOrd) (hrw : CoRW X)
    (hvb : ViaBorn X) {l : X.A} {h : H} {o : MemOrd} {rf : Option Nat} (hl : X.kind l = .load h o rf) :
    1 ≤ valRead X.ops rf := by
  have hmem := C04_reader_is_counted hc hp hrw hvb hl
  rw [(C04_every_read_counts_live_handles hc hp rf).1]
  have : 0 < (run (seenPrefix X.ops rf)).live.length := List.length_pos_of_mem hmem
  omega

/-! ## the same for every program of the ownership semantics -/
open WM.Own

variable (r : Run decOrd fenceOrd)
variable {hb : Ev (Fin r.final.kinds.length) → Ev (Fin r.final.kinds.length) → Prop}

theorem C04_read_through_owner_positive_in_every_program
    (hpo : ∀ x y, (lift x, lift y) ∈ r.final.po → hb x y)
    (hsw : ∀ x y, (lift x, lift y) ∈ r.final.sw → hb x y)
    (htrans : ∀ x y z, hb x y → hb y z → hb x z)
    (hc : Consistent (execOf r.final hb)) (hrw : CoRW (execOf r.final hb))
    {l : Fin r.final.kinds.length} {h : H} {o : MemOrd} {rf : Option Nat}
    (hl : (execOf r.final hb).kind l = .load h o rf) :
    1 ≤ valRead r.final.ops rf ∧
    valRead r.final.ops rf = ((run (seenPrefix r.final.ops rf)).live.length : Int) ∧
    h ∈ (run (seenPrefix r.final.ops rf)).live := by
  have hp := protocol_of_run r hb hpo hsw htrans
  have hvb : ViaBorn (execOf r.final hb) := viaBorn_of_run r hb hpo hsw htrans
  exact ⟨C04_read_through_owner_positive hc hp hrw hvb hl, (C04_every_read_counts_live_handles hc hp rf).1,
    C04_reader_is_counted hc hp hrw hvb hl⟩

/-- non-vacuity: in the `get_mut`-shaped run `ExMut` thread 0's load of the count (event 1, through handle 0, reading thread 1's
release) meets every hypothesis; the theorem gives 1 ≤ the value read (it is exactly 1: handle 0 alone is alive there) -/
example : 1 ≤ valRead ExMut.exX.ops (some 1) :=
  C04_read_through_owner_positive ExMut.ex_consistent ExMut.ex_protocol ExMut.ex_corw ExMut.ex_viaborn
    (l := (1 : ExMut.EA)) (h := 0) (o := .acquire) (rf := some 1) rfl
example : (0 : H) ∈ (run (seenPrefix ExMut.exX.ops (some 1))).live :=
  C04_reader_is_counted ExMut.ex_consistent ExMut.ex_protocol ExMut.ex_corw ExMut.ex_viaborn
    (l := (1 : ExMut.EA)) (h := 0) (o := .acquire) (rf := some 1) rfl

end C04
