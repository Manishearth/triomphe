import TriompheModel.Model.Serde
import TriompheModel.Generated.Impls
/-!
# C17 — serialisation is transparent; deserialisation yields a fresh sole owner

Model: `Model/Serde.lean` (M8).  The theorems quantify over **every** payload (arbitrary
`serialize` / `deserialize` functions), every serializer state, every deserializer, every heap.
The proofs are short — the model of the four impls *is* a delegation, exactly as the source; the
weight of C17 is in the tie: (A) the translator's census of serde entry points (`obl_serde_impl_census`,
by evaluation in the kernel on the regenerated table: exactly the four methods, nothing overridden), (B) the
correspondence run compares the real impls with the payload's own on a recording serializer / replaying
deserializer with failure injected at every k-th callback (vlib/props/c17.py).
-/
open Serde
namespace C17

/-! ## obligation on the facts regenerated from the source (Tie A) -/

/-- the serde impl rows of the translator's table: (trait, self type head, method, form) -/
def serdeRows : List (String × String × String × FactsTraits.DelegForm) :=
  (Generated.implForms.filter (fun r => r.trait_ == "Serialize" || r.trait_ == "Deserialize")).map
    (fun r => (r.trait_, r.selfHead, r.method, r.form))

/-- **census of serde entry points**: the crate implements exactly `Serialize::serialize` and
`Deserialize::deserialize` for `Arc` and for `UniqueArc`, and no other serde trait method (in particular
it does not override `deserialize_in_place`, whose provided body is what `Arc.deserializeInPlace`
models).  An added impl or method is an entry point the correspondence does not exercise, so this is an
obligation.  The *bodies* of the four methods are tied to the model by the correspondence (Tie B), not
by their spelling: `serdeFormsRecognised` below is advisory (vlib/props/c17.py enlarges the
correspondence sample when the translator does not recognise a body as the literal delegation). -/
def serdeCensusOk : Bool :=
  serdeRows.length == 4 &&
  (serdeRows.map (fun r => (r.1, r.2.1, r.2.2.1))).contains ("Serialize", "Arc", "serialize") &&
  (serdeRows.map (fun r => (r.1, r.2.1, r.2.2.1))).contains ("Serialize", "UniqueArc", "serialize") &&
  (serdeRows.map (fun r => (r.1, r.2.1, r.2.2.1))).contains ("Deserialize", "Arc", "deserialize") &&
  (serdeRows.map (fun r => (r.1, r.2.1, r.2.2.1))).contains ("Deserialize", "UniqueArc", "deserialize")
theorem obl_serde_impl_census : serdeCensusOk = true := by decide +kernel

/-- advisory: the four bodies are literally `(**self).serialize(serializer)` and
`T::deserialize(deserializer).map(X::new)` -/
def serdeFormsRecognised : Bool :=
  serdeRows.contains ("Serialize", "Arc", "serialize", .derefSerialize) &&
  serdeRows.contains ("Serialize", "UniqueArc", "serialize", .derefSerialize) &&
  serdeRows.contains ("Deserialize", "Arc", "deserialize", .mapNew) &&
  serdeRows.contains ("Deserialize", "UniqueArc", "deserialize", .mapNew)

variable {α σ ε δ κ : Type}

/-- **C17_serialize_transparent.**  For every payload type (any `serialize` function), every value,
every serializer state: serialising an `Arc` or a `UniqueArc` is the same computation as serialising
the contained value — same resulting serializer state (hence the same log of callbacks, for any way
`S.calls` of reading a log out of the state), same error. -/
theorem C17_serialize_transparent (P : Payload α σ ε δ) (S : Ser σ κ) (a : Handle α) (s : σ) :
    Arc.serialize P a s = P.serialize a.val s ∧
    UniqueArc.serialize P a s = P.serialize a.val s ∧
    (Arc.serialize P a s).map S.calls = (P.serialize a.val s).map S.calls ∧
    (UniqueArc.serialize P a s).map S.calls = (P.serialize a.val s).map S.calls :=
  ⟨rfl, rfl, rfl, rfl⟩

/-! `UniqueArc`'s two deserialisers are `Arc`'s (the same delegation, `rfl`), and a deserialiser is decided by what the
payload's own answers: the statements below are these equations read out. -/

theorem deserialize_ok {P : Payload α σ ε δ} {d : δ} {v : α} (hv : P.deserialize d = .ok v) (h : Heap α) :
    Arc.deserialize P h d = (⟨h.blocks ++ [⟨1, v⟩]⟩, .ok ⟨h.blocks.length, v⟩) := by
  rw [Arc.deserialize, hv]; rfl

theorem deserialize_error {P : Payload α σ ε δ} {d : δ} {e : ε} (he : P.deserialize d = .error e) (h : Heap α) :
    Arc.deserialize P h d = (h, .error e) := by
  rw [Arc.deserialize, he]

/-- a statement about "both of `[x, y]`" when `y` is `x` -/
theorem eq_of_mem_pair {β : Type} {x y r : β} (hxy : y = x) (hr : r ∈ [x, y]) : r = x := by
  rcases List.mem_cons.1 hr with rfl | hr
  · rfl
  · exact (List.mem_singleton.1 hr).trans hxy

/-- **C17_deserialize_fresh_sole_owner.**  Whenever the payload's own deserialiser yields `v`, the
`Arc` (and `UniqueArc`) deserialiser yields a handle to a **new** block — its index is the old heap
length — with count 1 and value `v` (also what the handle dereferences to); every old block is
untouched and the heap grew by exactly one block. -/
theorem C17_deserialize_fresh_sole_owner (P : Payload α σ ε δ) (h : Heap α) (d : δ) (v : α)
    (hv : P.deserialize d = .ok v) :
    ∀ r ∈ [Arc.deserialize P h d, UniqueArc.deserialize P h d],
      ∃ a, r.2 = .ok a ∧ a.idx = h.blocks.length ∧ a.val = v ∧
        r.1.blocks[a.idx]? = some ⟨1, v⟩ ∧
        r.1.blocks.length = h.blocks.length + 1 ∧
        ∀ i, i < h.blocks.length → r.1.blocks[i]? = h.blocks[i]? := by
  intro r hr
  obtain rfl := (eq_of_mem_pair rfl hr).trans (deserialize_ok hv h)
  exact ⟨⟨h.blocks.length, v⟩, rfl, rfl, rfl, List.getElem?_concat_length .., List.length_append,
    fun i hi => List.getElem?_append_left hi⟩

/-- **C17_error_passthrough_no_alloc.**  Whenever the payload's own deserialiser fails with `e`,
the `Arc` (and `UniqueArc`) deserialiser fails with the same `e` and the heap is unchanged: nothing
was allocated. -/
theorem C17_error_passthrough_no_alloc (P : Payload α σ ε δ) (h : Heap α) (d : δ) (e : ε)
    (he : P.deserialize d = .error e) :
    Arc.deserialize P h d = (h, .error e) ∧ UniqueArc.deserialize P h d = (h, .error e) :=
  ⟨deserialize_error he h, deserialize_error he h⟩

/-- the threaded form used in the model is the source's `.map(Arc::new)` -/
theorem C17_deserialize_is_map_new (P : Payload α σ ε δ) (h : Heap α) (d : δ) :
    (Arc.deserialize P h d).2 = (P.deserialize d).map (fun v => (Handle.new h v).2) ∧
    (UniqueArc.deserialize P h d).2 = (P.deserialize d).map (fun v => (Handle.new h v).2) := by
  cases hd : P.deserialize d <;> simp [Arc.deserialize, UniqueArc.deserialize, hd, Except.map]

/-- **C17_in_place_fresh_sole_owner.**  The in-place entry point (`Deserialize::deserialize_in_place`,
not overridden — `obl_serde_impl_census` — hence serde's `*place = deserialize(d)?`): whenever the
payload's own deserialiser yields `v`, afterwards `place` holds a handle to a **new** block with count 1
and value `v`; the allocation `place` referred to before lost exactly one owner and kept its value (so
every other owner still sees the old value); every other old block is untouched. -/
theorem C17_in_place_fresh_sole_owner (P : Payload α σ ε δ) (h : Heap α) (place : Handle α) (d : δ) (v : α)
    (b : Block α) (hb : h.blocks[place.idx]? = some b) (hv : P.deserialize d = .ok v) :
    ∀ r ∈ [Arc.deserializeInPlace P h place d, UniqueArc.deserializeInPlace P h place d],
      r.2.1 = .ok () ∧ r.2.2.idx = h.blocks.length ∧ r.2.2.val = v ∧
        r.1.blocks[h.blocks.length]? = some ⟨1, v⟩ ∧
        r.1.blocks[place.idx]? = some ⟨b.count - 1, b.value⟩ ∧
        r.1.blocks.length = h.blocks.length + 1 ∧
        ∀ i, i < h.blocks.length → i ≠ place.idx → r.1.blocks[i]? = h.blocks[i]? := by
  intro r hr
  have hlt : place.idx < h.blocks.length := (List.getElem?_eq_some_iff.1 hb).1
  have hb' : (h.blocks ++ [⟨1, v⟩])[place.idx]? = some b := (List.getElem?_append_left hlt).trans hb
  obtain rfl : r = ((⟨(h.blocks ++ [(⟨1, v⟩ : Block α)]).set place.idx ⟨b.count - 1, b.value⟩⟩ : Heap α), .ok (),
      (⟨h.blocks.length, v⟩ : Handle α)) := by
    rw [eq_of_mem_pair rfl hr, Arc.deserializeInPlace, deserialize_ok hv]
    show (Heap.release _ _, _, _) = _
    rw [Heap.release, hb']
  refine ⟨rfl, rfl, rfl, ?_, ?_, ?_, fun i hi hne => ?_⟩
  · exact (List.getElem?_set_ne (Nat.ne_of_lt hlt)).trans (List.getElem?_concat_length ..)
  · exact List.getElem?_set_self (by rw [List.length_append]; omega)
  · exact (List.length_set ..).trans List.length_append
  · exact (List.getElem?_set_ne (Ne.symm hne)).trans (List.getElem?_append_left hi)

/-- **C17_in_place_error.**  Whenever the payload's own deserialiser fails with `e`, the in-place entry
point fails with the same `e`, the heap is unchanged and `place` still holds the handle it held. -/
theorem C17_in_place_error (P : Payload α σ ε δ) (h : Heap α) (place : Handle α) (d : δ) (e : ε)
    (he : P.deserialize d = .error e) :
    Arc.deserializeInPlace P h place d = (h, .error e, place) ∧
    UniqueArc.deserializeInPlace P h place d = (h, .error e, place) := by
  have e : Arc.deserializeInPlace P h place d = (h, .error e, place) := by
    rw [Arc.deserializeInPlace, deserialize_error he]
  exact ⟨e, e⟩

/-! ## non-vacuity: the concrete recording instance meets the hypotheses, with and without failure -/

/-- `(7u32, "ab")` -/
def exPair : Val := .tuple (.cons (.u32 7) (.cons (.str "ab") .nil))

-- without failure: 6 callbacks, and the Arc log is that log
example : (Arc.serialize valPayload ⟨0, (exPair, Rec.init 0)⟩ (Rec.init 0)).map recSer.calls
    = .ok [.tuple 2, .elem, .u32 7, .elem, .str "ab", .end_] := rfl
-- failure injected at the 3rd callback: error after `tuple elem u32`, through Arc and UniqueArc alike
example : Arc.serialize valPayload ⟨0, (exPair, Rec.init 0)⟩ (Rec.init 3)
    = .error ⟨3, [.tuple 2, .elem, .u32 7, .fail]⟩ := rfl
example : UniqueArc.serialize valPayload ⟨0, (exPair, Rec.init 0)⟩ (Rec.init 3)
    = .error ⟨3, [.tuple 2, .elem, .u32 7, .fail]⟩ := rfl
-- deserialisation succeeds: hypothesis of `C17_deserialize_fresh_sole_owner` is met …
example : ∃ v, valPayload.deserialize ⟨exPair, Rec.init 0⟩ = .ok v := ⟨_, rfl⟩
-- … and fails at the injected callback: hypothesis of `C17_error_passthrough_no_alloc` is met
example : valPayload.deserialize ⟨exPair, Rec.init 2⟩ = .error ⟨2, [.deTuple 2, .nextElem, .fail]⟩ := rfl

end C17
