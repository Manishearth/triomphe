import TriompheModel.Generated.Signatures
import TriompheModel.Proofs.StrFast
/-!
# Shape of the public API that the history model relies on (Tie A, for additive changes)

The history model M1 has no operation that makes an owning handle out of a `UniqueArc` other than by consuming it
(`shareable`, `into_inner`), and none that writes the recorded length of a ThinArc's allocation.  Its invariants
(`kind = unique → count = 1`; recorded length = slice length) would be false of a crate that offers such an operation.
The harnesses can only call the API they know; a NEW safe accessor is invisible to them.  These obligations, proved by
evaluation in the kernel on the signature table the translator regenerates on every run, say that no such accessor exists.
-/
namespace ApiShape

/-- `pat` occurs in `s` (on character lists: reduces in the kernel) -/
def hasInfix (pat : List Char) : List Char → Bool
  | [] => pat.isEmpty
  | c :: r => (pat.isPrefixOf (c :: r)) || hasInfix pat r
def has (s pat : String) : Bool := hasInfix pat.toList s.toList
def starts (s pat : String) : Bool := pat.toList.isPrefixOf s.toList

/-- pub safe fns on `UniqueArc` whose return type lends an `ArcBorrow` / `&Arc` / `OffsetArc`: from any of those a
second OWNING handle can be made (`clone_arc`, `Arc::clone`) while the UniqueArc still claims sole ownership -/
def uniqueLeaks : List String :=
  (Generated.sigs.filter fun s => s.isPub && !s.isUnsafe && starts s.selfTy "UniqueArc" &&
     (has s.outShape "ArcBorrow" || has s.outShape "&Arc<" || has s.outShape "OffsetArc")).map (·.key)
theorem obl_unique_arc_lends_no_arc : uniqueLeaks = [] := by
  simp only [uniqueLeaks, has, starts, StrFast.toList_eq_fast]
  decide +kernel

/-- pub safe fns on ThinArc / the protected payload that hand out `&mut` to the UNPROTECTED `HeaderSlice<HeaderWithLength<H>, [T]>`:
its public `length` field is what `ThinArc` trusts when it rebuilds the fat pointer (and the layout it frees with) -/
def thinLengthLeaks : List String :=
  (Generated.sigs.filter fun s => s.isPub && !s.isUnsafe && has s.outShape "&mut" &&
      -- ThinArc itself hands out no `&mut` at all (its one mutation path is the callback of `with_arc_mut`, through the
      -- Protected wrapper); and nothing hands out `&mut` to the unprotected header-with-length payload of a protected Arc
      (starts s.selfTy "ThinArc" ||
       (has s.outShape "HeaderWithLength" && !has s.outShape "Protected" && has s.selfTy "Protected"))).map (·.key)
theorem obl_thin_length_not_writable : thinLengthLeaks = [] := by
  simp only [thinLengthLeaks, has, starts, StrFast.toList_eq_fast]
  decide +kernel

/-- the public functions that lend a handle to a client callback: each is an op of the history correspondence
(`cb:rawOffset`, `cb:borrowWithArc`, `cb:offsetWithArc`, `cb:thinWithArc`, `cb:thinWithArcMut`) and of the model (`CbApi`),
where the count inside the callback, the unwind path and — for the `&mut` one — the write-back are compared with the model.
A further lending function would be a borrow the correspondence does not drive: C04's "inside every borrow callback" and
C03/C10's write-back statement would not be shown for it. -/
def lendingFns : List String :=
  (Generated.sigs.filter fun s => s.isPub && !s.callbacks.isEmpty).map (·.key)
def knownLendingFns : List String :=
  ["Arc::with_raw_offset_arc", "ArcBorrow::with_arc", "OffsetArc::with_arc", "ThinArc::with_arc", "ThinArc::with_arc_mut"]
theorem obl_lending_fn_census :
    (lendingFns.all fun k => knownLendingFns.contains k) = true ∧ (knownLendingFns.all fun k => lendingFns.contains k) = true := by
  decide +kernel
end ApiShape
