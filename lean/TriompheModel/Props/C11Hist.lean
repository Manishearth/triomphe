import TriompheModel.Proofs.HistOff
/-!
# C11, history clause — addresses along histories of the handle machine

`Props/C11.lean` proves the address arithmetic for every payload layout.  Here: along EVERY finite
history of M1 (every handle kind, every conversion path, callbacks, make_mut redirects) the stored
words are what C11 says — block-address kinds store the block start (`heap_ptr`), data-address kinds
(raw pointer, OffsetArc, ArcBorrow, untagged ArcUnion word) store the value's address, all handles to
one allocation agree on that address, it never changes while the allocation lives, and feeding a raw
pointer back recovers the same handle.  (`ThinArc`'s raw pointer is the block address — the known
deviation F3 — and is modelled as the code does.)
-/
namespace M1
namespace C11H

/-- `heap_ptr` reports the start of the block, through any handle of any kind -/
theorem C11_heap_ptr_is_block_start (ops : List Op) (i : Nat) (h : HV) (hl : lookup (run ops) i = some h) :
    (asArc (run ops).mem h).off = 0 :=
  heap_ptr_is_block_start ops i h hl

/-- `as_ptr` / `into_raw` is the address at which the value itself lives (block start + field offset of
`data` for the view) -/
theorem C11_as_ptr_is_value_address (ops : List Op) (i : Nat) (h : HV) (hl : lookup (run ops) i = some h) :
    Arc.as_ptr_off (run ops).mem (asArc (run ops).mem h) =
      (asArc (run ops).mem h).ty.dataOff (viewLen (run ops).mem (asArc (run ops).mem h)) :=
  as_ptr_is_value_address ops i h hl

/-- **identical across clones, conversions and handle kinds**: any two handles to one allocation
yield the same value address -/
theorem C11_same_block_same_address (ops : List Op) (i j : Nat) (hi hj : HV)
    (h1 : lookup (run ops) i = some hi) (h2 : lookup (run ops) j = some hj) (hb : hi.blk = hj.blk) :
    Arc.as_ptr_off (run ops).mem (asArc (run ops).mem hi) = Arc.as_ptr_off (run ops).mem (asArc (run ops).mem hj) :=
  same_block_same_data_address ops i j hi hj h1 h2 hb

/-- **stable for the life of the allocation**: whatever op comes next, a handle to the same block
still yields the same value address -/
theorem C11_stable (ops : List Op) (op : Op) (i j : Nat) (h h' : HV)
    (h1 : lookup (run ops) i = some h) (h2 : lookup (step (run ops) op).1 j = some h') (hb : h'.blk = h.blk) :
    Arc.as_ptr_off (step (run ops) op).1.mem (asArc (step (run ops) op).1.mem h') =
      Arc.as_ptr_off (run ops).mem (asArc (run ops).mem h) :=
  stable_under_step (run ops) op i j h h' (inv_run ops) (leninv_run ops) (layinv_run ops) (offinv_run ops) h1 h2 hb

/-- **round trips**: `from_raw (into_raw a) = a`; through OffsetArc and ThinArc raw pointers: `M1.Off.*`
(`Proofs/HistOffBase.lean`) -/
theorem C11_from_raw_into_raw (m : Mem) (a : HV) (hk : a.kind = .arc) : Arc.from_raw m (Arc.into_raw m a) = a :=
  from_raw_of_arc hk

end C11H
end M1
