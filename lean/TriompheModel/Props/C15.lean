import TriompheModel.Proofs.HistVal
/-!
# C15 — uninitialised construction never destroys or exposes what was not written
-/
namespace M1
namespace C15

/-- **dropping through a `MaybeUninit` view runs no element destructor** — whether or not slots
were written — and the (initialised) header is destroyed exactly once -/
theorem C15_drop_uninit_no_element_drop (b : Nat) (k : Block) (t : Ty) (len : Nat) (ht : t.elemsInit = false) :
    payloadDrops b k t len = (match k.hdr with | some h => [Event.drop h.id] | none => []) := by
  cases hh : k.hdr <;> simp [payloadDrops, ht, hh]

/-- the three uninitialised views -/
theorem C15_uninit_views : Ty.mu.elemsInit = false ∧ Ty.muSlice.elemsInit = false ∧ Ty.hsMu.elemsInit = false :=
  ⟨rfl, rfl, rfl⟩

/-- **`assume_init` is a cast**: same block, same address, same length, same kind; memory (contents
and count) is not touched at all -/
theorem C15_assume_init_is_cast (m : Mem) (h h' : HV) (hc : runConv m h .assumeInit = some h') :
    h'.blk = h.blk ∧ h'.off = h.off ∧ h'.len = h.len ∧ h'.kind = h.kind ∧
    (h.ty = .mu → h'.ty = .sized) ∧ (h.ty = .muSlice → h'.ty = .slice) ∧ (h.ty = .hsMu → h'.ty = .hs) := by
  cases runConv_graph hc with
  -- `{ h with ty := _ }`, the new type as the old one says
  | assumeMu _ hty | assumeMuSlice _ hty | assumeHsMu _ hty => rw [hty]; simp

theorem C15_step_assume_init (s : State) (src : Nat) (h h' : HV) (hs : lookup s src = some h)
    (hc : runConv s.mem h .assumeInit = some h') :
    (step s (.conv src .assumeInit)).1.mem = s.mem := by
  simp [step, hs, hc, State.set]

/-- **after `assume_init` every element is destroyed exactly once together with the allocation**:
through an initialised view whose slots are all written, the payload destructor emits one `drop`
per element, in order, and no `dropUninit` -/
theorem C15_after_init_each_once (b : Nat) (k : Block) (t : Ty) (ht : t.elemsInit = true)
    (items : List Item) (hk : k.elems = items.map some) :
    payloadDrops b k t items.length =
      (match k.hdr with | some h => [Event.drop h.id] | none => []) ++ items.map (fun it => Event.drop it.id) :=
  payloadDrops_written b k t _ items hk ht rfl

/-- **the deprecated `Arc::write` / `as_mut_slice` on a shared handle panics instead of mutating**:
no block is changed (the only memory effect is that the value passed to `write` is dropped) -/
theorem C15_deprecated_write_panics_when_shared (s : State) (src i : Nat) (v : Item) (h : HV)
    (hs : lookup s src = some h) (hk : h.kind = .arc) (hty : h.ty = .mu ∨ h.ty = .muSlice)
    (hi : i < viewLen s.mem h) (hu : Arc.is_unique s.mem h = false) :
    (step s (.writeSlot src i v)).2.status = "panic:not-unique" ∧
    (step s (.writeSlot src i v)).1.mem.blocks = s.mem.blocks ∧
    (step s (.writeSlot src i v)).1.slots = s.slots := by
  rcases hty with hty | hty <;> simp [step, hs, hk, hty, hi, hu, panicked, Mem.emit]

/-- **over histories**: the header of an uninitialised handle, and after `assume_init` every element,
is destroyed at most once — no value is ever destroyed twice along any history, whatever subset of
slots was written and wherever the handle was dropped -/
theorem C15_destroyed_at_most_once (ops : List Op) (h : FreshIds ops) : (dropIds (run ops).mem.log).Nodup :=
  drop_at_most_once ops h

/-- a written slot that is never assumed initialised is simply forgotten: what a still-live block
stores (e.g. after other handles dropped through uninitialised views) has not been destroyed -/
theorem C15_written_not_destroyed_while_live (ops : List Op) (h : FreshIds ops) (b : Nat) (k : Block)
    (hk : (run ops).mem.blocks[b]? = some k) (hl : k.live = true) :
    ∀ i, i ∈ k.ids → i ∉ dropIds (run ops).mem.log :=
  live_values_not_destroyed ops h b k hk hl

/-- `assume_init` over histories: allocation, contents and count are untouched (the op changes only
the slot's type tag) and the count still equals the number of owners afterwards -/
theorem C15_assume_init_over_histories (ops : List Op) (src : Nat) (h h' : HV)
    (hs : lookup (run ops) src = some h) (hc : runConv (run ops).mem h .assumeInit = some h') :
    (step (run ops) (.conv src .assumeInit)).1.mem = (run ops).mem ∧ h'.blk = h.blk ∧
    Inv (step (run ops) (.conv src .assumeInit)).1 :=
  ⟨C15_step_assume_init _ src h h' hs hc, (C15_assume_init_is_cast _ h h' hc).1, inv_step _ _ (inv_run ops)⟩

end C15
end M1
