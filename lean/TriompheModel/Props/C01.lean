import TriompheModel.Proofs.HistInv
import TriompheModel.Proofs.HistVal
/-!
# C01 — a shared value lives exactly as long as some owning handle does

Corollaries of the invariants `M1.Inv` and `M1.LogInv` (Proofs/HistInv.lean), which hold in every
state reachable by ANY finite history of ops (`run ops`, `ops : List Op` arbitrary) over any mix of
handle kinds and conversion paths (Arc ↔ ThinArc ↔ OffsetArc ↔ ArcUnion ↔ UniqueArc ↔ raw pointers,
header erasure, `assume_init`, casts to `dyn`, transient borrows and callback scripts, scripted
iterators with lies and panics, panicking `Clone`).

Reading guide: `owners s b` counts the owning handle *values* of every kind that refer to block `b`;
`k.live` = not yet returned to the allocator; `k.leaked` = half-built block abandoned by a panicking
constructor (the documented leak — the only way a block can stay allocated without an owner).
-/
namespace M1
namespace C01

theorem C01_inv_init : Inv State.init := inv_init

/-- **alive exactly as long as owned.**  After any history, a block is still allocated iff some
owning handle refers to it (abandoned half-built blocks excepted): nothing is destroyed early,
nothing is leaked. -/
theorem C01_lifetime (ops : List Op) (b : Nat) (k : Block) (hk : (run ops).mem.blocks[b]? = some k)
    (hlk : k.leaked = false) : k.live = true ↔ 0 < owners (run ops) b :=
  live_iff_owned (inv_run ops) hk hlk

/-- **readable through every handle while owned**: every handle in the table points into a block
that exists, is live and is not an abandoned one -/
theorem C01_readable_while_owned (ops : List Op) (i : Nat) (h : HV) (hl : lookup (run ops) i = some h) :
    ∃ k, (run ops).mem.blocks[h.blk]? = some k ∧ k.live = true ∧ k.leaked = false :=
  (count_eq_owners (inv_run ops) hl).2

/-- **destroyed at the moment the last owner is released.**  If an op takes the number of owners of
a (non-abandoned) block from positive to zero, the block is dead afterwards and its (single)
`dealloc` event was emitted by that very op.  (A block that still has an owner is live: `C01_readable_while_owned`.) -/
theorem C01_destroyed_at_last_release (ops : List Op) (op : Op) (b : Nat) (k k' : Block)
    (hk : (run ops).mem.blocks[b]? = some k) (hlk : k.leaked = false)
    (hk' : (step (run ops) op).1.mem.blocks[b]? = some k') (hlk' : k'.leaked = false)
    (hbefore : 0 < owners (run ops) b) (hafter : owners (step (run ops) op).1 b = 0) :
    k.live = true ∧ k'.live = false ∧
    (¬ ∃ sz al : Nat, Event.dealloc b sz al ∈ (run ops).mem.log) ∧
    (∃ sz al : Nat, Event.dealloc b sz al ∈ (step (run ops) op).1.mem.log) := by
  have hi := inv_run ops
  have hl := loginv_run ops
  have h1 : k.live = true := (live_iff_owned hi hk hlk).2 hbefore
  have h2 : k'.live = false := Bool.eq_false_iff.2 fun hv =>
    Nat.ne_of_gt ((live_iff_owned (inv_step _ op hi) hk' hlk').1 hv) hafter
  exact ⟨h1, h2, fun hd => Bool.eq_false_iff.1 ((dealloc_iff_dead hl hk).1 hd) h1,
    (dealloc_iff_dead (loginv_step _ op hi hl) hk').2 h2⟩

/-- **memory is returned exactly once**: in the log of any history a block has a `dealloc` event iff
it is dead, never two, and it comes after the block's (unique) `alloc` event -/
theorem C01_freed_exactly_once (ops : List Op) :
    (∀ (b : Nat) (k : Block), (run ops).mem.blocks[b]? = some k →
        ((∃ sz al : Nat, Event.dealloc b sz al ∈ (run ops).mem.log) ↔ k.live = false)) ∧
    (∀ (i j b sz al sz' al' : Nat), (run ops).mem.log[i]? = some (Event.dealloc b sz al) →
        (run ops).mem.log[j]? = some (Event.dealloc b sz' al') → i = j) ∧
    (∀ (i j b sz al sz' al' : Nat), (run ops).mem.log[i]? = some (Event.dealloc b sz al) →
        (run ops).mem.log[j]? = some (Event.alloc b sz' al') → j < i) := by
  have hl := loginv_run ops
  exact ⟨fun _ _ => dealloc_iff_dead hl, fun _ _ _ _ _ _ _ => dealloc_unique hl,
    fun _ _ _ _ _ _ _ => alloc_before_dealloc hl⟩

/-- **the destructor runs with the release, once**: the payload destructor events are emitted by
`drop_inner` exactly when it saw the count 1, immediately followed by the block's `dealloc` — so at
most once per block, by the previous theorem -/
theorem C01_destructor_with_release (m : Mem) (b : Nat) (t : Ty) (len : Nat) (k : Block)
    (hk : m.blocks[b]? = some k) :
    (decr m b t len).log = m.log ++
      (if k.count = 1 then payloadDrops b k t len ++
        [Event.dealloc b (t.releaseLayout len).size (t.releaseLayout len).align] else []) := by
  rw [decr_log, hk]

/-! ### values: destroyed at most once, and exactly at the last release

`FreshIds ops`: the identities of the values handed to the constructors / `writeSlot` in the history
are pairwise distinct (and below the range `Clone` draws new identities from) — what the harness's
identity-tracked payloads guarantee.  It is a decidable hypothesis, satisfied by `exampleValHistory`. -/

/-- **no value is destroyed twice**, in any history -/
theorem C01_destructor_at_most_once (ops : List Op) (h : FreshIds ops) : (dropIds (run ops).mem.log).Nodup :=
  drop_at_most_once ops h

/-- **nothing is destroyed early**: whatever a live block stores has not been destroyed -/
theorem C01_nothing_destroyed_early (ops : List Op) (h : FreshIds ops) (b : Nat) (k : Block)
    (hk : (run ops).mem.blocks[b]? = some k) (hl : k.live = true) :
    ∀ i, i ∈ k.ids → i ∉ dropIds (run ops).mem.log :=
  live_values_not_destroyed ops h b k hk hl

/-- **the destructor runs exactly at the last release**: dropping the sole owner through an
initialised view destroys exactly the values the block stores (header, then every element) … -/
theorem C01_last_release_destroys_the_value (ops : List Op) (src : Nat) (h : HV)
    (hs : lookup (run ops) src = some h) (hown : owners (run ops) h.blk = 1)
    (hinit : (asArc (run ops).mem h).ty.elemsInit = true) (hd : (dropHandle (run ops).mem h).isSome = true) :
    ∃ k : Block, (run ops).mem.blocks[h.blk]? = some k ∧
      dropIds (step (run ops) (.drop src)).1.mem.log = dropIds (run ops).mem.log ++ k.ids :=
  drop_releases_exactly (run ops) src h (inv_run ops) (leninv_run ops) hs hown hinit hd

/-- … and releasing one of several owners destroys nothing -/
theorem C01_other_release_destroys_nothing (ops : List Op) (src : Nat) (h : HV)
    (hs : lookup (run ops) src = some h) (hown : owners (run ops) h.blk ≠ 1) :
    dropIds (step (run ops) (.drop src)).1.mem.log = dropIds (run ops).mem.log :=
  drop_shared_destroys_nothing (run ops) src h (inv_run ops) hs hown

/-- only values that were handed in (or made by `Clone`) are ever destroyed -/
theorem C01_only_known_values_destroyed (ops : List Op) (h : FreshIds ops) :
    ∀ i, i ∈ dropIds (run ops).mem.log → i ∈ histIds ops ∨ 1000000 ≤ i :=
  destroyed_values_were_handed_in ops h

example : FreshIds exampleValHistory := by decide +kernel

/-- abandoned blocks (panicking constructor) are never referred to by anything -/
theorem C01_abandoned_unowned (ops : List Op) (b : Nat) (k : Block) (hk : (run ops).mem.blocks[b]? = some k)
    (hlk : k.leaked = true) : owners (run ops) b = 0 :=
  leaked_unowned (inv_run ops) hk hlk

/-- non-vacuity: a history through a callback clone, a raw pointer and `into_inner` -/
example : owners (run exampleHistory) 0 = 2 ∧ owners (run exampleHistory) 1 = 0 := by decide +kernel

end C01
end M1
