import TriompheModel.Proofs.Layout
/-!
# C12 (arithmetic half) — bit 0 of every data address is free; tag / untag

`ArcUnion` stores `Arc::into_raw(a)` for the first variant and `Arc::into_raw(b) | 1` for the
second, tests `word & 1`, and strips the tag with `word & !1`.  That is sound iff every data
address is even — for *every* payload type, including byte-aligned and zero-sized ones.
The history half (typed clone/drop on the right block) lives in `Props/C12.lean`.
-/
namespace LY
namespace C12

variable {bits k : Nat} {p : Layout} {e : Nat}

/-- **bit 0 is free**: for every payload alignment `2^e` (incl. 1), every payload size (incl. 0),
every word width `8·2^k` (`k ≥ 1`), and every block address aligned as requested, the data
address is even -/
theorem C12_data_addr_even (hb : WordBits bits k) (hp : p.AlignIs e) {base : Nat}
    (hbase : (arcInnerLayout bits p).1.align ∣ base) :
    (base + (arcInnerLayout bits p).2) % 2 = 0 := by
  have h1 : 2 ∣ base := Nat.dvd_trans (block_align_even hb hp) hbase
  have h2 : 2 ∣ (arcInnerLayout bits p).2 := dataOff_even hb hp
  exact Nat.mod_eq_zero_of_dvd ((Nat.dvd_add_right h1).mpr h2)

/-- the same through the accessor `ArcUnion::from_*` actually calls (`Arc::into_raw`) and for the
three real widths -/
theorem C12_into_raw_even (hbits : bits = 16 ∨ bits = 32 ∨ bits = 64) (hp : p.AlignIs e) {base : Nat}
    (hbase : (arcInnerLayout bits p).1.align ∣ base) : intoRaw bits base p % 2 = 0 := by
  obtain ⟨k, hb⟩ := wordBits_of_real hbits
  exact C12_data_addr_even hb hp hbase

/-! On an even address `x`: `tagSecond x = x + 1`, `untag` is the identity on `x` and strips the tag from `x + 1`,
`isFirst` tells the two apart.  Everything below is rewriting with these five. -/

theorem tagSecond_even {x : Nat} (hx : x % 2 = 0) : tagSecond x = x + 1 := by
  obtain ⟨a, rfl⟩ := Nat.dvd_of_mod_eq_zero hx
  exact (Nat.two_pow_add_eq_or_of_lt (i := 1) (b := 1) (by decide) a).symm

theorem untag_even {x : Nat} (hx : x % 2 = 0) : untag x = x :=
  Nat.div_mul_cancel (Nat.dvd_of_mod_eq_zero hx)

theorem untag_succ_even {x : Nat} (hx : x % 2 = 0) : untag (x + 1) = x := by
  unfold untag; omega

theorem isFirst_even {x : Nat} (hx : x % 2 = 0) : isFirst x = true := by
  unfold isFirst; rw [hx]; rfl

theorem isFirst_succ_even {x : Nat} (hx : x % 2 = 0) : isFirst (x + 1) = false := by
  unfold isFirst; rw [Nat.add_mod, hx]; rfl

/-- Rust's `word & !1` is `word - (word & 1)`, which is the model's `untag` -/
theorem untag_eq_clear_bit0 (x : Nat) : untag x = x - (x &&& 1) := by
  rw [Nat.and_one_is_mod, untag, Nat.mul_comm]
  exact Nat.eq_sub_of_add_eq (Nat.div_add_mod x 2)

/-- **the variant is remembered**: for an even data address, `is_first` answers `true` on the
first-variant word and `false` on the second-variant word -/
theorem C12_variant_remembered {x : Nat} (hx : x % 2 = 0) :
    isFirst (unionFromFirst x) = true ∧ isFirst (unionFromSecond x) = false := by
  rw [unionFromFirst, unionFromSecond, tagSecond_even hx]
  exact ⟨isFirst_even hx, isFirst_succ_even hx⟩

/-- **untag ∘ tag = id** on even addresses, and `untag` is the identity on them -/
theorem C12_untag_tag {x : Nat} (hx : x % 2 = 0) : untag (tagSecond x) = x ∧ untag x = x := by
  rw [tagSecond_even hx]
  exact ⟨untag_succ_even hx, untag_even hx⟩

/-- `borrow` hands `ArcBorrow::from_ptr` the original data address, with the right variant -/
theorem C12_borrow_recovers {x : Nat} (hx : x % 2 = 0) :
    unionBorrow (unionFromFirst x) = (true, x) ∧ unionBorrow (unionFromSecond x) = (false, x) := by
  rw [unionFromFirst, unionFromSecond, tagSecond_even hx, unionBorrow, unionBorrow, isFirst_even hx,
    isFirst_succ_even hx, untag_succ_even hx]
  exact ⟨rfl, rfl⟩

/-- words of different variants are never equal (so `ptr_eq` across variants is `false`), and the
word determines the address -/
theorem C12_words_distinct {x y : Nat} (hx : x % 2 = 0) (hy : y % 2 = 0) :
    unionFromFirst x ≠ unionFromSecond y ∧
    (unionFromSecond x = unionFromSecond y → x = y) := by
  rw [unionFromFirst, unionFromSecond, unionFromSecond, tagSecond_even hy, tagSecond_even hx]
  exact ⟨fun h => by omega, Nat.succ.inj⟩

/-- why evenness is needed: on an odd address the tag is lost (`from_first` of an odd address
would read back as the second variant, at another address) -/
theorem C12_odd_breaks : isFirst (unionFromFirst 4105) = false ∧ (unionBorrow (unionFromFirst 4105)).2 = 4104 := by
  decide +kernel

/-! ### non-vacuity -/

-- byte-aligned, zero-sized, odd-sized and over-aligned payloads, 16/32/64-bit words
example : (4096 + (arcInnerLayout 64 ⟨0, 1⟩).2) % 2 = 0 := by decide +kernel
example : (4096 + (arcInnerLayout 64 ⟨3, 1⟩).2) % 2 = 0 := by decide +kernel
example : (4096 + (arcInnerLayout 64 ⟨64, 64⟩).2) % 2 = 0 := by decide +kernel
example : (4098 + (arcInnerLayout 16 ⟨1, 1⟩).2) % 2 = 0 ∧ (arcInnerLayout 16 ⟨1, 1⟩).1.align = 2 := by decide +kernel
example : (4100 + (arcInnerLayout 32 ⟨0, 1⟩).2) % 2 = 0 ∧ (arcInnerLayout 32 ⟨0, 1⟩).1.align = 4 := by decide +kernel
-- a hypothetical 8-bit word (k = 0, excluded by WordBits) would give odd data addresses
example : (4096 + (arcInnerLayout 8 ⟨1, 1⟩).2) % 2 = 1 ∧ (arcInnerLayout 8 ⟨1, 1⟩).1.align ∣ 4096 ∧ ¬ WordBits 8 0 := by decide +kernel
-- the hypotheses of C12_data_addr_even are satisfiable by non-trivial shapes
example : (⟨3, 1⟩ : Layout).AlignIs 0 ∧ (⟨0, 32⟩ : Layout).AlignIs 5 ∧ WordBits 16 1 ∧ WordBits 32 2 ∧ WordBits 64 3 ∧
    (arcInnerLayout 16 ⟨3, 1⟩).1.align ∣ 4098 ∧ (arcInnerLayout 64 ⟨0, 32⟩).1.align ∣ 4096 := by decide +kernel
example : unionFromSecond 4104 = 4105 ∧ unionBorrow 4105 = (false, 4104) ∧ unionBorrow 4104 = (true, 4104) := by decide +kernel

end C12
end LY
