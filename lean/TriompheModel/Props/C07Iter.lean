import TriompheModel.Props.C06
/-!
# C07 (iterator part) — panicking or lying iterators cause no double drop and no uninitialised read

Every theorem below is for EVERY memory `m`, both profiles `dbg`, every iterator-driven constructor
`which` (`from_header_and_iter`, `ThinArc::from_header_and_iter`, `FromIterator` for `Arc<[T]>` and
`UniqueArc<[T]>`), every header `h` and EVERY script `sc`: any `lens` (over-, under-reporting,
changing between calls), any `hints`, any item list of any length, a panic at any `next()` call or
none.  They are read off `runIterCtor_spec` (Proofs/Ctor.lean), which lists the five shapes the
result can have.

`CtorRes` has exactly two constructors, so "the outcome is a returned handle (`.built`) or a
propagated panic (`.panicked`)" holds by typing; `r.mem` is the memory afterwards in either case and
`added m r.mem` the events the call appended to the log.
-/
namespace M1
open LY

/-- **outcome**: in both cases the old blocks are unchanged, at most one block is new, the log is
only extended, and the clone counter is untouched -/
theorem C07_iter_outcome (m : Mem) (dbg : Bool) (which : IterCtor) (h : Option Item) (sc : IterScript) :
    (∀ j, j < m.blocks.length → (runIterCtor m dbg which h sc).mem.blocks[j]? = m.blocks[j]?) ∧
    m.blocks.length ≤ (runIterCtor m dbg which h sc).mem.blocks.length ∧
    (runIterCtor m dbg which h sc).mem.blocks.length ≤ m.blocks.length + 1 ∧
    (runIterCtor m dbg which h sc).mem.log = m.log ++ added m (runIterCtor m dbg which h sc).mem ∧
    (runIterCtor m dbg which h sc).mem.nextClone = m.nextClone := by
  have hs := runIterCtor_spec m dbg which h sc
  generalize runIterCtor m dbg which h sc = r at hs ⊢
  cases hs with
  | built | leaked | thinMismatch =>
    exact ⟨fun j hj => List.getElem?_append_left hj, by simp only [CtorRes.mem, List.length_append,
      Nat.le_add_right], by simp only [CtorRes.mem, List.length_append, List.length_singleton,
      Nat.le_refl], by simp only [CtorRes.mem, List.append_assoc, added_append], rfl⟩
  | noBlock | noAlloc =>
    exact ⟨fun j hj => rfl, Nat.le_refl _, Nat.le_succ _, by simp only [CtorRes.mem, added_append], rfl⟩

/-- **nothing uninitialised is ever exposed**: when a handle is returned, it points to the one new
block, every slot of which is written (in fact the slots are exactly ALL the iterator's items in
order — no lying `len()`/`size_hint()` can make a constructor return a short or padded slice), the
block is live with count 1 and not leaked, and the length the handle's view sees — the fat-pointer
length, or for a `ThinArc` the length word in the block — is the number of slots. -/
theorem C07_iter_built_initialised (m : Mem) (dbg : Bool) (which : IterCtor) (h : Option Item)
    (sc : IterScript) (m' : Mem) (hv : HV) (hr : runIterCtor m dbg which h sc = .built m' hv) :
    ∃ k : Block, m'.blocks = m.blocks ++ [k] ∧ hv.blk = m.blocks.length ∧
      (∀ e ∈ k.elems, e.isSome = true) ∧ k.elems = sc.items.map some ∧
      k.count = 1 ∧ k.live = true ∧ k.leaked = false ∧
      viewLen m' hv = k.elems.length ∧
      (which ≠ .thinFromIter → hv.len = k.elems.length) ∧
      (which = .thinFromIter → k.recLen = some k.elems.length) ∧
      (∀ e ∈ added m m', e.isDrop = false ∧ e.isDropUninit = false) := by
  obtain ⟨lay, _, k, hb, hblk, hc, hl, hlk, _, _, he, hrec, _, _, hlen, hvl, hlog, _⟩ :=
    C06_iter_built_contents m dbg which h sc m' hv hr
  have hn : k.elems.length = sc.items.length := by rw [he, List.length_map]
  refine ⟨k, hb, hblk, ?_, he, hc, hl, hlk, by rw [hvl, hn], ?_, ?_, ?_⟩
  · rw [he, List.forall_mem_map]
    exact fun _ _ => rfl
  · intro hw
    rw [hlen, hn]
    cases which <;> first | rfl | exact absurd rfl hw
  · rintro rfl
    rw [hrec, hn]
    rfl
  · rw [added, hlog, List.drop_left, List.forall_mem_singleton]
    exact ⟨rfl, rfl⟩

/-- **a panic leaks or frees, nothing else**: when the constructor panics, no handle is returned
(`r.handle? = none` by construction) and either no block was allocated — then the call only dropped
a tail `items.drop j` of the iterator's items, or, when the layout computation of
`from_header_and_iter` overflows for the reported length `n` (class `"layout-overflow"`, before any
`next()` call), ALL the items (the iterator) and then the header, which the constructor still
owns —, or the one new block is
* `leaked = true` and still `live` — the half-built allocation is abandoned and never destroyed:
  no `.dealloc` and no destructor of anything stored in it (the dropped items are `items.drop j`,
  the block holds only items from `items.take j`): the documented leak; or
* `live = false` with count 0 — only `ThinArc::from_header_and_iter` whose two `len()` answers
  disagree: the block was completely built (all items), then properly destroyed by the unwinding
  `Arc`; its `.dealloc` is the last event of the log. -/
theorem C07_iter_panic_leaks_or_frees (m : Mem) (dbg : Bool) (which : IterCtor) (h : Option Item)
    (sc : IterScript) (m' : Mem) (cls : String)
    (hr : runIterCtor m dbg which h sc = .panicked m' cls) :
    (runIterCtor m dbg which h sc).handle? = none ∧
    ((m'.blocks = m.blocks ∧
        ((∃ j, added m m' = dropsOf (sc.items.drop j)) ∨
         (∃ n, allocLayoutHeaderSlice bits which.hdrLay trackedLay n = none ∧ cls = "layout-overflow" ∧
            added m m' = dropsOf sc.items ++ hdrDrops (which.hdrOf h)))) ∨
     (∃ k : Block, m'.blocks = m.blocks ++ [k] ∧
        ((k.leaked = true ∧ k.live = true ∧ k.count = 1 ∧
          ∃ j size align, added m m' = [.alloc m.blocks.length size align] ++ dropsOf (sc.items.drop j) ∧
            ∀ v, some v ∈ k.elems → v ∈ sc.items.take j) ∨
         (k.leaked = false ∧ k.live = false ∧ k.count = 0 ∧ k.elems = sc.items.map some ∧
          which = .thinFromIter ∧ cls = "length-mismatch" ∧
          ∃ size align size' align', added m m' =
            [.alloc m.blocks.length size align] ++
              (hdrDrops h ++ dropsOf sc.items ++ [.dealloc m.blocks.length size' align']))))) := by
  have hs := runIterCtor_spec m dbg which h sc
  rw [hr] at hs ⊢
  refine ⟨rfl, ?_⟩
  cases hs with
  | noBlock k cls => exact Or.inl ⟨rfl, Or.inl ⟨k, added_append ..⟩⟩
  | noAlloc n hal => exact Or.inl ⟨rfl, Or.inr ⟨n, hal, rfl, added_append ..⟩⟩
  | leaked lay rl es k cls hes =>
    rw [List.append_assoc]
    exact Or.inr ⟨_, rfl, Or.inl ⟨rfl, rfl, rfl, k, _, _, added_append .., hes⟩⟩
  | thinMismatch lay n1 hw hne hal =>
    rw [List.append_assoc]
    exact Or.inr ⟨_, rfl, Or.inr ⟨rfl, rfl, rfl, rfl, hw, rfl, _, _, _, _, added_append ..⟩⟩

/-- **no uninitialised slot is ever destroyed**: the events of the call contain no `.dropUninit` -/
theorem C07_iter_no_uninit_drop (m : Mem) (dbg : Bool) (which : IterCtor) (h : Option Item)
    (sc : IterScript) :
    ∀ e ∈ added m (runIterCtor m dbg which h sc).mem, e.isDropUninit = false := by
  have hs := runIterCtor_spec m dbg which h sc
  generalize runIterCtor m dbg which h sc = r at hs
  -- the added events of each outcome, taken apart at the appends
  cases hs <;> simp only [CtorRes.mem, List.append_assoc, added_append, List.forall_mem_append,
    List.forall_mem_singleton]
  · rfl
  · exact no_uninit_dropsOf _
  · exact ⟨no_uninit_dropsOf _, no_uninit_hdrDrops _⟩
  · exact ⟨rfl, no_uninit_dropsOf _⟩
  · exact ⟨rfl, no_uninit_hdrDrops _, no_uninit_dropsOf _, rfl⟩

/-- the identities destroyed by the call: nothing, a tail of the items, — thin mismatch — the
header and all items, or — layout overflow in `from_header_and_iter` — all items and then the
header the constructor owns -/
theorem iter_dropIds (m : Mem) (dbg : Bool) (which : IterCtor) (h : Option Item) (sc : IterScript) :
    (∃ j, dropIds (added m (runIterCtor m dbg which h sc).mem) = (sc.items.drop j).map (·.id)) ∨
    dropIds (added m (runIterCtor m dbg which h sc).mem) = (h.toList ++ sc.items).map (·.id) ∨
    dropIds (added m (runIterCtor m dbg which h sc).mem) =
      (sc.items ++ (which.hdrOf h).toList).map (·.id) := by
  have hs := runIterCtor_spec m dbg which h sc
  generalize runIterCtor m dbg which h sc = r at hs
  cases hs <;> simp only [CtorRes.mem, List.append_assoc, added_append, dropIds_append,
    dropIds_dropsOf, dropIds_hdrDrops, dropIds_alloc, dropIds_dealloc, List.nil_append,
    List.append_nil, List.map_append]
  · exact Or.inl ⟨sc.items.length, by rw [List.drop_length]; rfl⟩
  · exact Or.inl ⟨_, rfl⟩
  · exact Or.inr (Or.inr trivial)
  · exact Or.inl ⟨_, rfl⟩
  · exact Or.inr (Or.inl trivial)

/-- **no double drop**: if the header and the items handed to the constructor have pairwise distinct
identities, then the identities destroyed during the call are pairwise distinct (every value is
destroyed at most once) and each is the identity of the header or of one of the items (only values
that were handed to the constructor are destroyed) -/
theorem C07_iter_no_double_drop (m : Mem) (dbg : Bool) (which : IterCtor) (h : Option Item)
    (sc : IterScript) (hnd : ((h.toList ++ sc.items).map (·.id)).Nodup) :
    (dropIds (added m (runIterCtor m dbg which h sc).mem)).Nodup ∧
    ∀ i ∈ dropIds (added m (runIterCtor m dbg which h sc).mem), i ∈ (h.toList ++ sc.items).map (·.id) := by
  -- in every case the destroyed identities are a sublist of a permutation of those handed in
  obtain ⟨l, hperm, hsl⟩ : ∃ l, l.Perm ((h.toList ++ sc.items).map (·.id)) ∧
      (dropIds (added m (runIterCtor m dbg which h sc).mem)).Sublist l := by
    rcases iter_dropIds m dbg which h sc with ⟨j, hj⟩ | hj | hj <;> rw [hj]
    · exact ⟨_, .refl _, ((List.drop_sublist j _).trans (List.sublist_append_right _ _)).map _⟩
    · exact ⟨_, .refl _, .refl _⟩
    · -- all the items, then the header
      refine ⟨_, List.perm_append_comm.map _, (List.Sublist.append (.refl _) ?_).map _⟩
      cases which <;> first | exact .refl _ | exact List.nil_sublist _
  exact ⟨(hperm.symm.nodup hnd).sublist hsl, fun i hi => hperm.subset (hsl.subset hi)⟩

/-- the items written into a leaked block and the items destroyed by the panicking call are
disjoint (given distinct identities): a value is either still owned by the abandoned block — and
then never destroyed — or was destroyed once with the iterator -/
theorem C07_iter_leaked_contents_not_dropped (m : Mem) (dbg : Bool) (which : IterCtor) (h : Option Item)
    (sc : IterScript) (m' : Mem) (cls : String) (k : Block)
    (hr : runIterCtor m dbg which h sc = .panicked m' cls)
    (hk : m'.blocks = m.blocks ++ [k]) (hleak : k.leaked = true)
    (hnd : (sc.items.map (·.id)).Nodup) :
    ∀ v, some v ∈ k.elems → v.id ∉ dropIds (added m m') := by
  obtain ⟨_, ⟨hb, _⟩ | ⟨k', hk', hcase⟩⟩ := C07_iter_panic_leaks_or_frees m dbg which h sc m' cls hr
  · rw [hb] at hk
    exact absurd (congrArg List.length hk) (by simp)
  · obtain rfl : k' = k := by simpa [hk'] using hk
    rcases hcase with ⟨_, _, _, j, _, _, hadd, hes⟩ | ⟨hl, _⟩
    · intro v hv hmem
      rw [hadd, dropIds_append, dropIds_dropsOf, dropIds_alloc, List.nil_append] at hmem
      -- `v` is among the first `j` items, the identity destroyed among the others
      rw [← List.take_append_drop j sc.items, List.map_append] at hnd
      exact (List.nodup_append.1 hnd).2.2 _ (List.mem_map.2 ⟨v, hes v hv, rfl⟩) _ hmem rfl
    · rw [hl] at hleak; cases hleak

/-- `next()` never yields an item twice: the item yielded is the one at index `nextCalls`; the index
strictly increases on `yield`/`done` and is unchanged by a panicking call (the item that call would
have produced stays in the iterator and is dropped with it) -/
theorem C07_next_never_yields_twice (it : IterSt) :
    (it.next).2.sc = it.sc ∧
    match (it.next).1 with
    | .yield v => it.sc.items[it.nextCalls]? = some v ∧ (it.next).2.nextCalls = it.nextCalls + 1
    | .done => it.sc.items.length ≤ it.nextCalls ∧ (it.next).2.nextCalls = it.nextCalls + 1
    | .panic => it.sc.panicAt = some it.nextCalls ∧ (it.next).2.nextCalls = it.nextCalls := by
  rcases next_cases it with ⟨hp, e⟩ | ⟨v, hv, e⟩ | ⟨hd, e⟩ <;> rw [e]
  · exact ⟨rfl, hp, rfl⟩
  · exact ⟨rfl, hv, rfl⟩
  · exact ⟨rfl, hd, rfl⟩

/-- the write loop on ANY script: on success every slot is written and there are `acc.length + n`
of them, the items taken being the next `n` in order; on failure the iterator state tells how many
were taken -/
theorem C07_fillLoop_any_script (n : Nat) (it : IterSt) (acc : List (Option Item))
    (hacc : ∀ e ∈ acc, e.isSome = true) :
    match fillLoop n it acc with
    | (.ok elems, it') =>
        (∀ e ∈ elems, e.isSome = true) ∧ elems.length = acc.length + n ∧
        elems = acc ++ ((it.sc.items.drop it.nextCalls).take n).map some ∧
        it'.nextCalls = it.nextCalls + n ∧ it'.sc = it.sc
    | (.error _, it') =>
        it'.sc = it.sc ∧ it.nextCalls ≤ it'.nextCalls ∧ it'.nextCalls ≤ it.nextCalls + n := by
  obtain ⟨j, hjn, hjl, ⟨rfl, e⟩ | ⟨hlt, _, e⟩ | ⟨hlt, _, e⟩⟩ := fillLoop_run n it acc <;> rw [e]
  · refine ⟨?_, ?_, rfl, rfl, rfl⟩
    · rw [List.forall_mem_append, List.forall_mem_map]
      exact ⟨hacc, fun _ _ => rfl⟩
    · rw [List.length_append, List.length_map, List.length_take, List.length_drop, Nat.min_eq_left hjl]
  · exact ⟨rfl, Nat.le_succ_of_le (Nat.le_add_right _ _), Nat.add_le_add_left hlt _⟩
  · exact ⟨rfl, Nat.le_add_right _ _, Nat.add_le_add_left (Nat.le_of_lt hlt) _⟩

/-! ## non-vacuity: concrete lying and panicking scripts reach every case -/

section Examples

def exItems7 : List Item := [⟨1, 10⟩, ⟨2, 20⟩, ⟨3, 30⟩]
def exHdr7 : Item := ⟨9, 90⟩
def exMem7 : Mem := (Arc.new State.init.mem .sized (some ⟨7, 70⟩)).1

structure BlkDigest where
  count : Nat
  live : Bool
  leaked : Bool
  elems : List (Option Item)
deriving DecidableEq

structure ResDigest where
  built : Bool
  cls : String
  newBlocks : List BlkDigest
  events : List Event
deriving DecidableEq

/-- what a result looks like from outside: built?, panic class, the new blocks, the added events -/
def digestRes (m : Mem) (r : CtorRes) : ResDigest :=
  ⟨r.handle?.isSome, (match r with | .panicked _ c => c | _ => ""),
   (r.mem.blocks.drop m.blocks.length).map (fun k => ⟨k.count, k.live, k.leaked, k.elems⟩),
   added m r.mem⟩

/-- the distinctness hypothesis of `C07_iter_no_double_drop` holds for the examples -/
example : (((some exHdr7).toList ++ exItems7).map (·.id)).Nodup := by decide +kernel

/-- over-report (`len()` = 5, 3 items): the `expect` in the loop panics, block leaked with unwritten
slots, nothing dropped -/
example : digestRes exMem7 (runIterCtor exMem7 true .hsFromIter (some exHdr7) ⟨[5], [], exItems7, none⟩)
    = ⟨false, "over-reported", [⟨1, true, true, [none, none, none, none, none]⟩], [.alloc 1 56 8]⟩ := by
  decide +kernel

/-- under-report (`len()` = 2, 3 items): the post-loop `assert!` panics after taking the extra item:
block leaked holding items 1 and 2, item 3 dropped once -/
example : digestRes exMem7 (runIterCtor exMem7 true .hsFromIter (some exHdr7) ⟨[2], [], exItems7, none⟩)
    = ⟨false, "under-reported", [⟨1, true, true, [some ⟨1, 10⟩, some ⟨2, 20⟩]⟩], [.alloc 1 32 8, .drop 3]⟩ := by
  decide +kernel

/-- `next()` panics at call 1: block leaked, items 2 and 3 (still inside the iterator) dropped once -/
example : digestRes exMem7 (runIterCtor exMem7 true .hsFromIter (some exHdr7) ⟨[], [], exItems7, some 1⟩)
    = ⟨false, "scripted", [⟨1, true, true, [none, none, none]⟩], [.alloc 1 40 8, .drop 2, .drop 3]⟩ := by
  decide +kernel

/-- `len()` changing between calls (2 then 3) in `ThinArc::from_header_and_iter`: fully built, then
`into_thin` panics and the Arc is destroyed properly: header, each item once, dealloc -/
example : digestRes exMem7 (runIterCtor exMem7 true .thinFromIter (some exHdr7) ⟨[2, 3], [], exItems7, none⟩)
    = ⟨false, "length-mismatch", [⟨0, false, false, exItems7.map some⟩], [.alloc 1 48 8, .drop 9, .drop 1, .drop 2, .drop 3, .dealloc 1 48 8]⟩ := by
  decide +kernel

/-- `len()` = 2^62: the layout computation overflows, the `unwrap()` panics before any allocation and
before any `next()` call: the iterator (all three items) is dropped, then the header — each once -/
example : digestRes exMem7 (runIterCtor exMem7 true .hsFromIter (some exHdr7) ⟨[2 ^ 62], [], exItems7, none⟩)
    = ⟨false, "layout-overflow", [], [.drop 1, .drop 2, .drop 3, .drop 9]⟩ := by
  decide +kernel

/-- the same for `ThinArc::from_header_and_iter` (the second `len()` answer is the one allocated for) -/
example : digestRes exMem7 (runIterCtor exMem7 true .thinFromIter (some exHdr7) ⟨[3, 2 ^ 62], [], exItems7, none⟩)
    = ⟨false, "layout-overflow", [], [.drop 1, .drop 2, .drop 3, .drop 9]⟩ := by
  decide +kernel

/-- `FromIterator` with an exact but absurd `size_hint()`: same panic, there is no header to drop -/
example : digestRes exMem7 (runIterCtor exMem7 true .fromIter (some exHdr7)
      ⟨[], [(2 ^ 62, some (2 ^ 62))], exItems7, none⟩)
    = ⟨false, "layout-overflow", [], [.drop 1, .drop 2, .drop 3]⟩ := by
  decide +kernel

/-- `size_hint()` changing between calls: exact first, inexact second, debug profile: the
`debug_assert` panics before any allocation; all items dropped once with the iterator -/
example : digestRes exMem7 (runIterCtor exMem7 true .fromIter none ⟨[], [(3, some 3), (0, none)], exItems7, none⟩)
    = ⟨false, "size-hint", [], [.drop 1, .drop 2, .drop 3]⟩ := by
  decide +kernel

/-- same script, release profile: the lower bound 0 is used as the length — under-report: leaked
empty block, the extra item dropped by the `assert!`, the rest with the iterator -/
example : digestRes exMem7 (runIterCtor exMem7 false .fromIter none ⟨[], [(3, some 3), (0, none)], exItems7, none⟩)
    = ⟨false, "under-reported", [⟨1, true, true, []⟩], [.alloc 1 8 8, .drop 1, .drop 2, .drop 3]⟩ := by
  decide +kernel

/-- collect fallback with a panic at call 2: the partial `Vec` (items 1, 2) and the iterator (item
3) are dropped: each item once, no allocation in the log model -/
example : digestRes exMem7 (runIterCtor exMem7 true .uniqueFromIter none ⟨[], [(0, none)], exItems7, some 2⟩)
    = ⟨false, "scripted", [], [.drop 1, .drop 2, .drop 3]⟩ := by
  decide +kernel

/-- a lying `len()` list that happens to end right still builds — with exactly the items -/
example : digestRes exMem7 (runIterCtor exMem7 true .hsFromIter (some exHdr7) ⟨[3], [(7, none)], exItems7, some 4⟩)
    = ⟨true, "", [⟨1, true, false, exItems7.map some⟩], [.alloc 1 40 8]⟩ := by
  decide +kernel

end Examples

end M1
