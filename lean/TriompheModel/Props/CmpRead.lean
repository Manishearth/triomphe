import TriompheModel.Model.Ops
/-!
# Comparison, hashing and formatting through handles are reads (C04, C07, C14 — history half)

In the model a `cmp a b` line is **not a `step`**: `cmpAnswer` returns an answer computed from the
memory and the driver prints the unchanged state (`Driver/Hist.lean`).  That they leave every count,
block and value alone on the real code — also while the payload's `eq` / `cmp` / `hash` / `fmt` runs, and
also when it panics — is what the correspondence and the monitors check on every `cmp` line
(vlib/hist.py: state identical, no events, counts read inside the payload's impl equal the owning handles).

What is proved here is that the *answers* the model gives are those of a comparison by value:
an ordering that is `eq` exactly on equal keys (so `==` and `partial_cmp` agree — the property the
`fix:` commit on `HeaderWithLength`'s ordering restored), antisymmetric, and blind to which allocation or
which handle the values were reached through.
-/
namespace M1
namespace CmpRead

theorem lexCmp_eq_iff (a b : List Nat) : lexCmp a b = .eq ↔ a = b := by
  induction a generalizing b with
  | nil => cases b <;> simp [lexCmp]
  | cons x xs ih =>
    cases b with
    | nil => simp [lexCmp]
    | cons y ys =>
      simp only [lexCmp]
      by_cases h1 : x < y
      · simp [h1]; omega
      · by_cases h2 : y < x
        · simp [h1, h2]; omega
        · have : x = y := by omega
          simp [this, ih]

theorem lexCmp_swap (a b : List Nat) : (lexCmp a b).swap = lexCmp b a := by
  induction a generalizing b with
  | nil => cases b <;> rfl
  | cons x xs ih =>
    cases b with
    | nil => rfl
    | cons y ys =>
      simp only [lexCmp]
      by_cases h1 : x < y
      · have : ¬ y < x := by omega
        simp [h1, this, Ordering.swap]
      · by_cases h2 : y < x
        · simp [h1, h2, Ordering.swap]
        · simp [h1, h2, ih]

/-- **the ordering is consistent with equality**: `partial_cmp` answers `Equal` exactly when `==`
answers `true` (keys with the same shape: both with or both without a recorded length) -/
theorem keyCmp_eq_iff (x y : List Nat × List Nat × Option Nat) (hs : x.2.2.isSome = y.2.2.isSome) :
    keyCmp x y = .eq ↔ x = y := by
  obtain ⟨x1, x2, x3⟩ := x
  obtain ⟨y1, y2, y3⟩ := y
  -- `Equal` only if every component answers `Equal`
  have hk : keyCmp (x1, x2, x3) (y1, y2, y3) = .eq ↔
      lexCmp x1 y1 = .eq ∧ lexCmp x2 y2 = .eq ∧ x3.getD 0 = y3.getD 0 := by
    simp only [keyCmp]
    cases lexCmp x1 y1 <;> cases lexCmp x2 y2 <;> simp
  rw [hk, lexCmp_eq_iff, lexCmp_eq_iff, Prod.mk.injEq, Prod.mk.injEq]
  refine and_congr_right fun _ => and_congr_right fun _ => ?_
  cases x3 <;> cases y3 <;> simp at hs ⊢

/-- **antisymmetry**: swapping the operands swaps the answer -/
theorem keyCmp_swap (x y : List Nat × List Nat × Option Nat) : (keyCmp x y).swap = keyCmp y x := by
  simp only [keyCmp]
  rw [← lexCmp_swap y.1 x.1, ← lexCmp_swap y.2.1 x.2.1, ← Nat.compare_swap (x.2.2.getD 0)]
  cases lexCmp y.1 x.1 <;> cases lexCmp y.2.1 x.2.1 <;> rfl

/-- **the licence "same allocation ⇒ equal" is consistent with comparison by value**: two handles of
the same type to the same block see the same key (the payload universe has no value unequal to itself) -/
theorem same_allocation_same_key (m : Mem) (x y : HV) (hk : x.kind = y.kind) (ht : x.ty = y.ty)
    (hb : x.blk = y.blk) (hl : x.len = y.len) : cmpKey m x = cmpKey m y := by
  simp [cmpKey, viewLen, hk, ht, hb, hl]

/-- the answer does not depend on the counts: another owner coming or going changes nothing -/
theorem cmpKey_incr (m : Mem) (b : Nat) (x : HV) : cmpKey (incr m b) x = cmpKey m x := by
  have hget : ∀ i, (incr m b).blocks[i]? = (m.blocks[i]?).map (fun k => if b = i then { k with count := k.count + 1 } else k) := by
    intro i
    simp only [incr, Mem.upd, List.getElem?_modify]
    cases m.blocks[i]? <;> simp
  have hrec : ∀ i : Nat, ((incr m b).blocks[i]?.bind Block.recLen) = (m.blocks[i]?.bind Block.recLen) := by
    intro i; rw [hget]; cases m.blocks[i]? <;> simp; split <;> rfl
  have hv : viewLen (incr m b) x = viewLen m x := by
    unfold viewLen; rw [hrec]
  unfold cmpKey
  rw [hv, hget]
  cases m.blocks[x.blk]? with
  | none => rfl
  | some k => simp only [Option.map]; split <;> rfl

example : keyCmp ([9], [1, 2], some 2) ([9], [1, 2], some 3) = .lt := by decide +kernel
example : keyCmp ([9], [1, 2], none) ([9], [1], none) = .gt := by decide +kernel

end CmpRead
end M1
