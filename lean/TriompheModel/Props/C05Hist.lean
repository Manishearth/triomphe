import TriompheModel.Proofs.HistLen
/-!
# C05, history clause — "exactly that block is returned with exactly the size and alignment it was
requested with, through whichever handle kind, conversion, unsizing or unwrapping path"

`Props/C05.lean` proves the arithmetic (request side = release side for every shape).  Here the two
sides meet along histories of the handle machine M1: the layout recorded by every `dealloc` event is
the layout of the block's `alloc` event, for EVERY finite history over every mix of handle kinds
(drop as Arc / ThinArc / OffsetArc / ArcUnion / UniqueArc, after from_raw, after the cast to `dyn`,
after header erasure, after `assume_init`, via `into_inner` / `try_unwrap`, refused `into_thin`,
`with_arc_mut` replacing the Arc, the length-mismatch destroy of `ThinArc::from_header_and_iter`).
The proof: `LenInv` (every view sees the real length) and `LayInv` (every view's release layout is the
block's request layout — established at construction by the C05 arithmetic theorems, preserved by every
op) give `DL` (every `dealloc` event records the block's layout); the allocation-log discipline `LogInv`
says the same of the `alloc` event.
-/
namespace M1
namespace C05H

/-- **C05 (histories)**: a block's `dealloc` event records the size and alignment of its `alloc` event -/
theorem C05_dealloc_layout_invariant (ops : List Op) (b sz al sz' al' : Nat)
    (ha : Event.alloc b sz al ∈ (run ops).mem.log) (hd : Event.dealloc b sz' al' ∈ (run ops).mem.log) :
    sz' = sz ∧ al' = al :=
  dealloc_layout_eq_alloc_layout ops b sz al sz' al' ha hd

/-- whoever releases a block next will compute the layout it was requested with: for every handle
in the table, the `Arc` view that `drop` uses has `releaseLayout = block.lay` -/
theorem C05_release_layout_is_request_layout (ops : List Op) (i : Nat) (h : HV) (k : Block)
    (hl : lookup (run ops) i = some h) (hk : (run ops).mem.blocks[h.blk]? = some k) :
    (asArc (run ops).mem h).ty.releaseLayout (viewLen (run ops).mem (asArc (run ops).mem h)) = k.lay :=
  (layinv_run ops).lay i h (lookup_mem hl) k hk

/-- freed exactly once (from `LogInv`) -/
theorem C05_freed_once (ops : List Op) (i j b sz al sz' al' : Nat)
    (h1 : (run ops).mem.log[i]? = some (Event.dealloc b sz al))
    (h2 : (run ops).mem.log[j]? = some (Event.dealloc b sz' al')) : i = j :=
  dealloc_unique (loginv_run ops) h1 h2

end C05H
end M1
