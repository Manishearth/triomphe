import TriompheModel.Props.Gates
import TriompheModel.Proofs.HistCow
import TriompheModel.Props.C03
/-!
# C08 — copy-on-write: a write through make_mut is never seen through another handle

History half: what `Arc::make_mut` / `make_unique` / `OffsetArc::make_mut` do to memory and to the
handle, in ANY state (the theorems quantify over all memories and handles): sole owner ⇒ same
allocation, no clone, no allocation; shared ⇒ exactly one `Clone`, a fresh block with count 1, one
decrement on the old block, and nothing else in the old block touched.  With the invariant `M1.Inv`
(count word = number of owners) "sole owner" is `owners = 1` (Props/C03.lean `C03_verdict_iff_sole_owner`).
Schedule half: the in-place branch is licensed by the same Acquire gate as `get_mut`
(`C08_exclusive_after_verdict`); the fresh-block branch touches only thread-local memory plus one
release decrement, which is C02's theorem.
-/
open Facts WM Gates
namespace C08

theorem obl_gate_make_mut : gateOk "Arc::make_mut" = true := gate_make_mut
theorem obl_gate_make_unique : gateOk "Arc::make_unique" = true := gate_make_unique
theorem obl_gate_offset_make_mut : gateOk "OffsetArc::make_mut" = true := gate_offset_make_mut
theorem obl_verdict_is_eq_one : Generated.isUniqueGuard = ⟨.eq, some 1⟩ := Gates.obl_verdict_is_eq_one
theorem obl_dec_release : Generated.decOrd.isRel = true := Gates.obl_dec_release

variable {X : CountExec} {fenceOrd : Option MemOrd}

/-- **C08 (schedules), in-place branch.** -/
theorem C08_exclusive_after_verdict (hc : Consistent X) (hp : Protocol X Generated.decOrd fenceOrd)
    (hrw : CoRW X) (hvb : ViaBorn X) {l : X.A} {h : H} {o : MemOrd} {rf : Option Nat}
    (hl : X.kind l = .load h o rf)
    (ho : ∀ g ∈ Generated.gates, g.name = "Arc::make_mut" → o ∈ g.loads)
    (hone : valRead X.ops rf = 1) :
    ∀ (a : X.A) (h' : H), (X.kind a).via = some h' → h' ≠ h →
      (h' = 0 ∨ ∃ j, rf = some j ∧ h' ∈ kids (X.ops.take (j+1))) → X.hb (.oth a) (.oth l) :=
  exclusive_after_verdict obl_gate_make_mut hc hp hrw hvb hl ho hone

/-- **C08 (schedules), in-place branch, both directions: "visible through that handle and through
nothing else" under every schedule.**  The write `w` that `make_mut` grants in place is concurrent
with no access through any other handle: handles that existed when the gate read the count are
former sharers (their accesses happen-before `w`), handles created later descend from the writer's
own handle after its `&mut` borrow ended and their accesses happen-after `w`. -/
theorem C08_in_place_write_races_with_nothing (hc : Consistent X) (hp : Protocol X Generated.decOrd fenceOrd)
    (hrw : CoRW X) (hvb : ViaBorn X) {l w : X.A} {h : H} {o : MemOrd} {rf : Option Nat}
    (hl : X.kind l = .load h o rf)
    (ho : ∀ g ∈ Generated.gates, g.name = "Arc::make_mut" → o ∈ g.loads)
    (hone : valRead X.ops rf = 1) (hlw : X.hb (.oth l) (.oth w)) (hex : MutExcl X l w h) :
    ∀ (a : X.A) (h' : H), (X.kind a).via = some h' → h' ≠ h →
      X.hb (.oth a) (.oth w) ∨ X.hb (.oth w) (.oth a) :=
  no_concurrent_access_after_verdict obl_gate_make_mut hc hp hrw hvb hl ho hone hlw hex

open M1

/-- **sole owner: the allocation is kept and the value is not cloned** (no event, no allocation) -/
theorem C08_unique_in_place (m : Mem) (a : HV) (cp : Bool) (hu : Arc.is_unique m a = true) :
    Arc.make_mut m a cp = (m, some a) :=
  (make_mut_eq m a cp).trans (if_pos hu)

/-- **`Clone` panics: nothing has happened yet** (the old handle and memory are untouched) -/
theorem C08_clone_panic_no_effect (m : Mem) (a : HV) (hu : Arc.is_unique m a = false) :
    Arc.make_mut m a true = (m, none) := by
  rw [make_mut_eq, hu]; rfl

/-- **shared: redirected to a fresh, solely-owned copy; the old block loses exactly one count** -/
theorem C08_shared_redirects (m : Mem) (a : HV) (hu : Arc.is_unique m a = false) :
    ∃ m₁ v m₂ fresh,
      cloneValue m a.blk = (m₁, v) ∧                       -- exactly one `Clone::clone`
      Arc.new m₁ a.ty v = (m₂, fresh) ∧                    -- a new block, count 1
      fresh.blk = m₁.blocks.length ∧
      Arc.make_mut m a false = (Arc.drop m₂ a, some fresh) -- then the old handle value is dropped
      :=
  ⟨(cloneValue m a.blk).1, (cloneValue m a.blk).2, (Arc.new (cloneValue m a.blk).1 a.ty (cloneValue m a.blk).2).1,
    (Arc.new (cloneValue m a.blk).1 a.ty (cloneValue m a.blk).2).2, rfl, rfl, rfl, by rw [make_mut_eq, hu]; rfl⟩

/-! ### after any history -/

/-- **every other handle keeps observing the old, unmodified value**: whatever `make_mut` does
(in-place write for a sole owner, redirect + write for a shared handle, or a panic in `Clone`), every
OTHER slot keeps its handle value and sees exactly the contents it saw before — for co-owners of any
kind, leaked raw pointers included. -/
theorem C08_others_unchanged (ops : List M1.Op) (src v : Nat) (cp : Bool) (h : HV)
    (hs : lookup (M1.run ops) src = some h) (hc : (h.kind = .arc ∧ h.ty = .sized) ∨ h.kind = .offset)
    (i : Nat) (hv : HV) (hne : i ≠ src) (hl : lookup (M1.run ops) i = some hv) :
    lookup (step (M1.run ops) (.makeMut src v cp)).1 i = some hv ∧
    digest (step (M1.run ops) (.makeMut src v cp)).1.mem hv = digest (M1.run ops).mem hv :=
  makeMut_frame (M1.run ops) src v cp h (inv_run ops) hs hc i hv hne hl

theorem C08_others_unchanged_make_unique (ops : List M1.Op) (src v : Nat) (cp : Bool) (h : HV)
    (hs : lookup (M1.run ops) src = some h) (hc : h.kind = .arc ∧ h.ty = .sized)
    (i : Nat) (hv : HV) (hne : i ≠ src) (hl : lookup (M1.run ops) i = some hv) :
    lookup (step (M1.run ops) (.makeUnique src v cp)).1 i = some hv ∧
    digest (step (M1.run ops) (.makeUnique src v cp)).1.mem hv = digest (M1.run ops).mem hv :=
  makeUnique_frame (M1.run ops) src v cp h (inv_run ops) hs hc i hv hne hl

/-- **shared ⇒ the previous allocation loses exactly one owner and the handle now solely owns a fresh
block** (`owners ≠ 1` is "another owning handle of any kind exists", by the invariant) -/
theorem C08_shared_owner_accounting (ops : List M1.Op) (src v : Nat) (h : HV)
    (hs : lookup (M1.run ops) src = some h) (hc : (h.kind = .arc ∧ h.ty = .sized) ∨ h.kind = .offset)
    (hsh : owners (M1.run ops) h.blk ≠ 1) :
    owners (step (M1.run ops) (.makeMut src v false)).1 h.blk = owners (M1.run ops) h.blk - 1 ∧
    owners (step (M1.run ops) (.makeMut src v false)).1 (M1.run ops).mem.blocks.length = 1 ∧
    ∃ h', lookup (step (M1.run ops) (.makeMut src v false)).1 src = some h' ∧ h'.blk = (M1.run ops).mem.blocks.length :=
  makeMut_shared_owners (M1.run ops) src v h (inv_run ops) hs hc hsh

/-- **sole owner ⇒ in place**: with the invariant, `is_unique` is `owners = 1` (a shared owner is redirected:
`C08_shared_redirects`, `C08_shared_owner_accounting`) -/
theorem C08_sole_owner_in_place (ops : List M1.Op) (src : Nat) (h : HV) (cp : Bool)
    (hs : lookup (M1.run ops) src = some h) (ho : owners (M1.run ops) h.blk = 1) :
    Arc.make_mut (M1.run ops).mem h cp = ((M1.run ops).mem, some h) :=
  C08_unique_in_place _ _ _ ((M1.C03H.C03_verdict_iff_sole_owner ops src h hs).2 ho)

end C08
