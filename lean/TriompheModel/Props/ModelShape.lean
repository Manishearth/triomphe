import TriompheModel.Generated.Atomics
/-!
Obligations tying the *shape* of the count-manipulating code to what the sequential model M1
(`Model/Heap.lean`: `incr`, `decr`, `loadCount`) mirrors.  They are facts the translator reads from
`/repo/src` on every run; no execution on one thread can observe most of them.

* the count word is modified only by the `fetch_add(1)` in `Arc::clone` (model: `incr`) and by the
  `fetch_sub(1)` in `Arc::drop_inner` (model: `decr`); no other write / RMW on a count exists;
* `drop_inner` is: decrement, return unless the old value was 1, (fence), destroy — which is exactly
  the control flow of `decr`;
* `is_unique` is `count == 1` (model: `Arc.is_unique`);
* `Clone`/`Drop`/`clone_arc` of the other handle kinds contain no atomic access of their own and
  funnel into `Arc`'s (model: `ThinArc.clone := … Arc.clone …`, etc.).
-/
namespace ModelShape

def censusOk : Bool :=
  Generated.unknownWrites.isEmpty &&
  Generated.sites.all (fun s => !s.kind.isWrite || s.debugOnly ||
    (s.fn_ == "Arc::clone" && s.kind == .fetchAdd) ||
    (s.fn_ == "Arc::drop_inner" && (s.kind == .fetchSub || s.kind == .fence)))
theorem obl_census : censusOk = true := by decide +kernel

theorem obl_one_inc_one_dec :
    (Generated.sites.filter (fun s => s.kind == .fetchAdd && !s.debugOnly)).length = 1 ∧
    (Generated.sites.filter (fun s => s.kind == .fetchSub && !s.debugOnly)).length = 1 := by decide +kernel

def skeletonOk : Bool :=
  (Generated.dropSkeleton == [.decGuard, .fence, .destroy] && Generated.fence.isSome) ||
  (Generated.dropSkeleton == [.decGuard, .destroy] && Generated.fence.isNone)
theorem obl_drop_skeleton : skeletonOk = true := by decide +kernel
theorem obl_dec_guard : Generated.decGuard = ⟨.ne, some 1⟩ := by decide +kernel
theorem obl_is_unique_guard : Generated.isUniqueGuard = ⟨.eq, some 1⟩ := by decide +kernel

def funnelsOk : Bool := Generated.funnels.all (fun f => f.ownAtomics == 0 && f.reaches)
theorem obl_funnels : funnelsOk = true := by decide +kernel

end ModelShape
