import TriompheModel.Proofs.HistInv
/-!
# C04 — the reported reference count equals the number of owning handles

`owners s b` is the number of owning handle values of ALL kinds in the slot table (raw pointers
handed out by `into_raw`-style calls included) that refer to block `b`.  Here: how each op changes
`owners`.  That the count *word* equals `owners` in every reachable state (also inside callbacks) is
the invariant `M1.Inv` (Proofs/HistInv.lean), from which `C04_count_eq_owners` follows.
-/
namespace M1
namespace C04

/-- **each clone-style operation raises the number of owners of exactly that block by one** -/
theorem C04_clone_plus_one (s : State) (dst src : Nat) (h : HV) (m : Mem) (c : HV)
    (hd : lookup s dst = none) (hs : lookup s src = some h) (hc : cloneHandle s.mem h = some (m, c)) :
    (step s (.clone dst src)).1 = s.put m dst c ∧
    (∀ b, owners (step s (.clone dst src)).1 b = owners s b + (if c.blk = b then 1 else 0)) := by
  have e : (step s (.clone dst src)).1 = s.put m dst c := by simp [step, hd, hs, hc]
  refine ⟨e, fun b => ?_⟩
  rw [e]; exact ownersL_cons ..

/-- the clone refers to the same block as its source, and the only change to memory is one
`fetch_add(1)` on that block's count word -/
theorem C04_clone_same_block (m : Mem) (h : HV) (m' : Mem) (c : HV) (hc : cloneHandle m h = some (m', c)) :
    c.blk = h.blk ∧ m' = incr m h.blk :=
  ⟨(cloneHandle_spec hc).2.1, (cloneHandle_spec hc).1⟩

/-- **the reported count equals the number of owning handles — after every history, through every
accessor of every slot.**  `loadCount` is what `count()` (Acquire) and `strong_count()` (Relaxed)
return sequentially, for the `Arc` that a handle of any kind stands for (`asArc`: ThinArc via
`with_arc`, OffsetArc / ArcBorrow / ArcUnion via `from_raw` of the data pointer). -/
theorem C04_count_eq_owners (ops : List Op) (i : Nat) (h : HV) (hl : lookup (run ops) i = some h) :
    loadCount (run ops).mem h.blk = owners (run ops) h.blk ∧
    Arc.strong_count (run ops).mem (asArc (run ops).mem h) = owners (run ops) h.blk ∧
    Arc.count (run ops).mem (asArc (run ops).mem h) = owners (run ops) h.blk :=
  ⟨(count_eq_owners (inv_run ops) hl).1, strong_count_eq_owners (inv_run ops) hl⟩

/-- the same from any state satisfying the invariant, continued by any further ops -/
theorem C04_count_eq_owners_from (s : State) (hi : Inv s) (ops : List Op) (i : Nat) (h : HV)
    (hl : lookup (ops.foldl (fun s o => (step s o).1) s) i = some h) :
    loadCount (ops.foldl (fun s o => (step s o).1) s).mem h.blk = owners (ops.foldl (fun s o => (step s o).1) s) h.blk :=
  (count_eq_owners (inv_run_from s hi ops) hl).1

/-- **inside a borrow callback**: whenever the invariant holds and slot `src` lends the transient
handle `t` (`Lends`), the count the callback reads through `t` is the number of owners … -/
theorem C04_inside_callbacks_reads_owners (s : State) (src : Nat) (t : HV) (hp : CbP src s t) :
    loadCount s.mem t.blk = owners s t.blk := by
  obtain ⟨hi, hs, hl, hb, _⟩ := hp
  rw [← hb]
  exact hi.loadCount_eq hl

/-- … and that situation (`CbP`: invariant + lending) is maintained by every action of every
callback script, whatever the API (`with_arc`, `with_raw_offset_arc`, `with_arc_mut` incl. replacing
the Arc or swapping it with another one), also when the script ends in a panic -/
theorem C04_inside_callbacks_maintained (api : CbApi) (src : Nat) (script : List CbAct) (s : State) (t : HV)
    (acc : String) (hp : CbP src s t) : ∃ t', CbP src (runCb api src script s t acc).1 t' :=
  runCb_preserves api src (CbP src) CbStep.cbp script s t acc hp

/-- **`mem::swap` inside `with_arc_mut` is neutral**: the action `swapWith k` (the callback swaps the
lent `Arc` with one made from the ThinArc of slot `k`, and puts what it got back into slot `k`) changes
no memory at all — no count word, no event —, keeps the number of owners of every block, and the two
slots end up holding each other's allocation -/
theorem C04_cb_swap_neutral (s : State) (hi : Inv s) (src k : Nat) (hs h2 t : HV) (rest : List CbAct)
    (acc : String) (hls : lookup s src = some hs) (hlk : lookup s k = some h2) (hne : k ≠ src)
    (hthin : h2.kind = .thin) (hbt : hs.blk = t.blk) :
    ∃ s', runCb .thinWithArcMut src (.swapWith k :: rest) s t acc =
        runCb .thinWithArcMut src rest s' (ThinArc.thick s.mem h2) (acc ++ "swapped;") ∧
      s'.mem = s.mem ∧ (∀ b, owners s' b = owners s b) ∧
      (∃ x, lookup s' src = some x ∧ x.kind = .thin ∧ x.blk = h2.blk) ∧
      (∃ y, lookup s' k = some y ∧ y.kind = .thin ∧ y.blk = hs.blk) := by
  refine ⟨(s.set s.mem k (ThinArc.of_arc t)).set s.mem src (ThinArc.of_arc (ThinArc.thick s.mem h2)),
    by simp [runCb, hne, hlk, hthin], rfl,
    ownersL_swap hi.keys (lookup_mem hls) (lookup_mem hlk) hne hbt.symm rfl,
    ⟨ThinArc.of_arc (ThinArc.thick s.mem h2), ?_, rfl, rfl⟩, ⟨ThinArc.of_arc t, ?_, rfl, hbt.symm⟩⟩
  · rw [lookup_eq, set_slots, set_slots, lookupL_setL_self, lookupL_setL_ne _ _ (Ne.symm hne), ← lookup_eq, hls]; rfl
  · rw [lookup_eq, set_slots, set_slots, lookupL_setL_ne _ _ hne, lookupL_setL_self, ← lookup_eq, hlk]; rfl

/-- the `cnt` action prints exactly that count -/
theorem C04_cb_cnt_prints_count (api : CbApi) (src : Nat) (rest : List CbAct) (s : State) (t : HV) (acc : String) :
    runCb api src (.cnt :: rest) s t acc = runCb api src rest s t (acc ++ s!"cnt={loadCount s.mem t.blk};") :=
  rfl

/-- **a release lowers the number of owners of exactly that block by one** -/
theorem C04_release_minus_one (s : State) (hi : Inv s) (src : Nat) (h : HV) (m : Mem)
    (hs : lookup s src = some h) (hd : dropHandle s.mem h = some m) :
    (step s (.drop src)).1 = s.del m src ∧
    ∀ b, owners (s.del m src) b + (if h.blk = b then 1 else 0) = owners s b :=
  ⟨by simp [step, hs, hd], ownersL_del hi.keys (lookup_mem hs)⟩

/-- **conversions are neutral**: an in-place conversion (into_raw, from_raw,
into/from_raw_offset, from_thin, thin into/from raw, union constructors, header erasure, shareable,
assume_init, cast to dyn) changes no count word and no number of owners -/
theorem C04_conv_neutral (s : State) (src : Nat) (c : Conv) (h h' : HV) (hs : lookup s src = some h)
    (hc : runConv s.mem h c = some h') (hi : Inv s) :
    (step s (.conv src c)).1.mem = s.mem ∧ ∀ b, owners (step s (.conv src c)).1 b = owners s b := by
  have e : (step s (.conv src c)).1 = s.set s.mem src h' := by simp [step, hs, hc]
  rw [e]
  refine ⟨rfl, fun b => ?_⟩
  have := ownersL_set (h' := h') hi.keys (lookup_mem hs) b
  rw [(runConv_spec hc).1] at this
  exact Nat.add_right_cancel this

theorem C04_is_unique_neutral (s : State) (src : Nat) : (step s (.isUnique src)).1 = s := by
  obtain ⟨r, e, hr⟩ := step_cases s (.isUnique src)
  cases hr with
  | bad | isUnique => rw [e]

end C04
end M1
