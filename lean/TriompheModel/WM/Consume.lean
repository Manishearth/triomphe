import TriompheModel.WM.Unique
/-!
# Moving the value out (try_unwrap / try_unique / into_inner) in the weak-memory model

`try_unique` performs an Acquire load of the count through the handle `h` it owns; if the load returns 1 the handle is
*consumed*: wrapped in `ManuallyDrop` / turned into a `UniqueArc`, so its decrement never happens, and the value is moved out
(or sole ownership is taken).  `Consume X l h` describes such an event on top of an execution `X`.  A consumption excludes any
destruction and any other consumption: under every schedule and every legal load outcome the value ends up moved out to exactly
one thread, or destroyed exactly once — never both, never twice.
-/
open Facts
namespace WM

structure Consume (X : CountExec) (l : X.A) (h : H) (ord : MemOrd) (rf : Option Nat) : Prop where
  isLoad : X.kind l = .load h ord rf
  acq : ord.isAcq = true
  one : valRead X.ops rf = 1
  /-- the consumed handle is never released (`ManuallyDrop`) -/
  never_released : ∀ m : Nat, X.ops[m]? ≠ some (Op.dec h)
  /-- the handle is owned by value: every clone made from it precedes the gate's load -/
  clones_before : ∀ (j : Nat) (c : H), X.ops[j]? = some (Op.inc c h) → X.hb (.rmw j) (.oth l)

variable {X : CountExec} {decOrd : MemOrd} {fenceOrd : Option MemOrd}

theorem consume_end (hc : Consistent X) (hp : Protocol X decOrd fenceOrd)
    (hvb : ViaBorn X) {l : X.A} {h : H} {ord : MemOrd} {rf : Option Nat} (c : Consume X l h ord rf) :
    X.ops.length ≤ prefixLen rf ∧ (run X.ops).live = [h] := by
  have hli : (X.kind l).loadInfo = some (ord, rf) := congrArg AKind.loadInfo c.isLoad
  -- `never_released` stands in for read-write coherence (`not_released_before`)
  have hlive := live_at_verdict hc hp hvb c.isLoad c.one (fun m _ => c.never_released m)
  have hend : X.ops.length ≤ prefixLen rf := by
    cases hget : X.ops[prefixLen rf]? with
    | none => exact List.getElem?_eq_none_iff.1 hget
    | some op =>
      exfalso
      -- the op at the end of the prefix is enabled there, where only `h` is live: it clones or drops `h`
      have hen := enabled_at hc hp hget
      cases op with
      | inc ch s =>
        simp only [Enabled, hlive, List.mem_singleton] at hen
        obtain ⟨rfl, _⟩ := hen
        obtain ⟨j, rfl, hnj⟩ := hc.coWR hli (c.clones_before _ ch hget)
        exact Nat.lt_irrefl j hnj
      | dec k =>
        simp only [Enabled, hlive, List.mem_singleton] at hen
        subst hen
        exact c.never_released _ hget
  exact ⟨hend, List.take_of_length_le hend ▸ hlive⟩

theorem consume_is_end (hc : Consistent X) (hp : Protocol X decOrd fenceOrd)
    (hrw : CoRW X) (hvb : ViaBorn X) {l : X.A} {h : H} {ord : MemOrd} {rf : Option Nat} (c : Consume X l h ord rf) :
    X.ops.length ≤ prefixLen rf ∧ (run X.ops).live = [h] :=
  consume_end hc hp hvb c

/-- **C09 (schedules): moved out ⇒ never destroyed.**  If some thread's gate succeeded and took the
value, no destruction event exists in the execution. -/
theorem consume_excludes_destroy (hc : Consistent X) (hp : Protocol X decOrd fenceOrd)
    (hrw : CoRW X) (hvb : ViaBorn X) {l : X.A} {h : H} {ord : MemOrd} {rf : Option Nat} (c : Consume X l h ord rf)
    {f : X.A} {k : Nat} (hf : X.kind f = .destroy k) : False := by
  obtain ⟨_, hlive⟩ := consume_end hc hp hvb c
  rw [live_nil_of_destroy hc hp hf] at hlive
  cases hlive

/-- **C09 (schedules): at most one thread takes the value.**  Two successful consuming gates on the
same allocation are the same handle's. -/
theorem consume_unique (hc : Consistent X) (hp : Protocol X decOrd fenceOrd)
    (hrw : CoRW X) (hvb : ViaBorn X) {l₁ l₂ : X.A} {h₁ h₂ : H} {o₁ o₂ : MemOrd} {rf₁ rf₂ : Option Nat}
    (c₁ : Consume X l₁ h₁ o₁ rf₁) (c₂ : Consume X l₂ h₂ o₂ rf₂) : h₁ = h₂ := by
  obtain ⟨_, hl1⟩ := consume_end hc hp hvb c₁
  obtain ⟨_, hl2⟩ := consume_end hc hp hvb c₂
  rw [hl1] at hl2
  simpa using hl2

/-- **C09 (schedules): former sharers.**  Every access other threads made through their (former) handles happens-before
the gate's load, hence before the value is moved. -/
theorem consume_after_all_former_sharers (hc : Consistent X) (hp : Protocol X decOrd fenceOrd)
    (hrw : CoRW X) (hvb : ViaBorn X) (hrel : decOrd.isRel = true) {l : X.A} {h : H} {ord : MemOrd} {rf : Option Nat} (c : Consume X l h ord rf) :
    ∀ (a : X.A) (h' : H), (X.kind a).via = some h' → h' ≠ h →
      (h' = 0 ∨ ∃ j, rf = some j ∧ h' ∈ kids (X.ops.take (j+1))) → X.hb (.oth a) (.oth l) :=
  unique_verdict_exclusive hc hp hrw hvb hrel c.isLoad c.acq c.one

end WM
