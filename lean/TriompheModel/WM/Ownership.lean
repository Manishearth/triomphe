import TriompheModel.WM.FinExec
/-!
# An operational, ownership-typed semantics of handle programs, and `Protocol` derived from it

`WM/Graph.lean` *assumes* `Protocol X decOrd fenceOrd` and `WM/Unique.lean` assumes `ViaBorn X`; this file derives both from a
small-step semantics (`Cfg`, `Instr`, `step`, `exec`, `Run`) of multi-threaded programs over the handles of ONE allocation.
Every instruction is executed by a thread that *owns* the handle it names; ownership moves only by `clone` (the new handle
belongs to the cloning thread) and `send` (hand-over to another thread, a synchronisation outside the count word).  The
semantics records the modification order of the count, the non-RMW events, program order `po` and the hand-over edges `sw`.
For every run and every transitive `hb ⊇ po ∪ sw` the induced execution `execOf c hb` satisfies `Protocol` and `ViaBorn`
(`protocol_of_run`, `viaBorn_of_run`), and `MutExcl` for a load/access pair with no clone of the handle between them
(`mutExcl_of_run`).

The proof is the *ownership chain*: invariant `InvB.cov` says that every event that touches a handle `h` (its birth,
every access through it, every clone taken from it) is hb-before the *current position* of the thread that owns `h`
(`Cov`), `InvB.dead` that it is hb-before the release of `h` once `h` has been dropped.
-/
open Facts
namespace WM
namespace Own

/-- events of the allocation, non-RMW events identified by their index in `Cfg.kinds` -/
abbrev E := Ev Nat

/-! ## syntax and configurations -/

inductive Instr where
  /-- `let ch = h.clone()` -/
  | clone (h ch : H)
  /-- a payload access through `h` -/
  | access (h : H)
  /-- a load of the count through `h`, reading from `rf` (unconstrained here; `Consistent` restricts it) -/
  | load (h : H) (o : MemOrd) (rf : Option Nat)
  /-- `drop(h)`; `frf` is what the fence load (if any) reads from -/
  | drop (h : H) (frf : Option Nat)
  /-- hand `h` over to thread `to` (channel send + receive, spawn, join, …) -/
  | send (h : H) (to : Nat)
  /-- a synchronisation with thread `to` that moves no handle -/
  | sync (to : Nat)

structure Cfg where
  /-- the thread owning a handle (`none`: not yet born, or released) -/
  own : Nat → Option Nat
  /-- events of a thread, most recent first -/
  hist : Nat → List E
  /-- events whose hand-over edge to the thread's next event is pending -/
  pend : Nat → List E
  /-- RMWs on the count so far = its modification order -/
  ops : List Op
  ords : List MemOrd
  /-- non-RMW events so far -/
  kinds : List AKind
  /-- `stamps[a]` = number of RMWs performed when event `a` was issued -/
  stamps : List Nat
  /-- program order: every earlier event of the same thread → the event -/
  po : List (E × E)
  /-- hand-over edges: the giver's last event → the taker's next event -/
  sw : List (E × E)

def upd {α : Type} (f : Nat → α) (k : Nat) (v : α) : Nat → α := fun x => if x = k then v else f x

@[simp] theorem upd_same {α : Type} (f : Nat → α) (k : Nat) (v : α) : upd f k v k = v := by simp [upd]
theorem upd_other {α : Type} (f : Nat → α) {k x : Nat} (v : α) (h : x ≠ k) : upd f k v x = f x := by simp [upd, h]

theorem upd_some_eq {α : Type} {f : Nat → Option α} {k x : Nat} {v a : α} :
    upd f k (some v) x = some a ↔ (x = k ∧ v = a) ∨ (x ≠ k ∧ f x = some a) := by
  by_cases h : x = k <;> simp [upd, h]

theorem upd_none_eq {α : Type} {f : Nat → Option α} {k x : Nat} {a : α} :
    upd f k none x = some a ↔ x ≠ k ∧ f x = some a := by
  by_cases h : x = k <;> simp [upd, h]

def Cfg.init : Cfg where
  own := fun h => if h = 0 then some 0 else none
  hist := fun _ => []
  pend := fun _ => []
  ops := []
  ords := []
  kinds := []
  stamps := []
  po := []
  sw := []

def lastEv : List E → List E
  | [] => []
  | e :: _ => [e]

/-- the immediate hb-predecessors of thread `t`'s next event -/
def front (c : Cfg) (t : Nat) : List E := lastEv (c.hist t) ++ c.pend t

def emit (c : Cfg) (t : Nat) (e : E) : Cfg :=
  { c with hist := upd c.hist t (e :: c.hist t), pend := upd c.pend t [],
           po := c.po ++ (c.hist t).map (fun x => (x, e)),
           sw := c.sw ++ (c.pend t).map (fun x => (x, e)) }

/-- thread `t` synchronises with `t'`: whatever precedes `t`'s position precedes `t'`'s next event -/
def give (c : Cfg) (t t' : Nat) : Cfg := { c with pend := upd c.pend t' (front c t ++ c.pend t') }

def pushOp (c : Cfg) (o : Op) (m : MemOrd) : Cfg := { c with ops := c.ops ++ [o], ords := c.ords ++ [m] }
def pushKind (c : Cfg) (k : AKind) : Cfg :=
  { c with kinds := c.kinds ++ [k], stamps := c.stamps ++ [c.ops.length] }
def setOwn (c : Cfg) (h : H) (v : Option Nat) : Cfg := { c with own := upd c.own h v }

/-- thread `t` issues a non-RMW event of kind `k` -/
def useStep (c : Cfg) (t : Nat) (k : AKind) : Cfg := emit (pushKind c k) t (.oth c.kinds.length)
def cloneStep (c : Cfg) (t : Nat) (h ch : H) : Cfg :=
  setOwn (emit (pushOp c (Op.inc ch h) .relaxed) t (.rmw c.ops.length)) ch (some t)
def decStep (decOrd : MemOrd) (c : Cfg) (t : Nat) (h : H) : Cfg :=
  setOwn (emit (pushOp c (Op.dec h) decOrd) t (.rmw c.ops.length)) h none
def fenceStep (fenceOrd : Option MemOrd) (c : Cfg) (t : Nat) (k : Nat) (frf : Option Nat) : Cfg :=
  match fenceOrd with
  | some o => useStep c t (.fenceLoad k o frf)
  | none => c
def destroyStep (c : Cfg) (t : Nat) (k : Nat) : Cfg := useStep c t (.destroy k)

section
variable (decOrd : MemOrd) (fenceOrd : Option MemOrd)

def step (c : Cfg) (t : Nat) : Instr → Option Cfg
  | .clone h ch => if c.own h = some t ∧ ch ≠ 0 ∧ ch ∉ kids c.ops then some (cloneStep c t h ch) else none
  | .access h => if c.own h = some t then some (useStep c t (.access h)) else none
  | .load h o rf => if c.own h = some t then some (useStep c t (.load h o rf)) else none
  | .drop h frf =>
    if c.own h = some t then
      if (run c.ops).val = 1 then
        some (destroyStep (fenceStep fenceOrd (decStep decOrd c t h) t c.ops.length frf) t c.ops.length)
      else some (decStep decOrd c t h)
    else none
  | .send h t' => if c.own h = some t then some (setOwn (give c t t') h (some t')) else none
  | .sync t' => some (give c t t')

def exec : Cfg → List (Nat × Instr) → Option Cfg
  | c, [] => some c
  | c, (t, i) :: r => match step decOrd fenceOrd c t i with
    | some c' => exec c' r
    | none => none

/-- a finite run from the initial configuration (thread 0 owns handle 0, count 1, no RMW yet) -/
structure Run where
  steps : List (Nat × Instr)
  final : Cfg
  ok : exec decOrd fenceOrd Cfg.init steps = some final
end

/- From here on `upd` is used through `upd_same`, `upd_other`, `upd_some_eq`, `upd_none_eq` only.  Left reducible, it makes the
unifier, each time it compares two configurations that differ in `own`, unfold `upd c.own h v x` down to `Decidable.rec` on
`x = h` before it gives up. -/
attribute [local irreducible] upd

/-! ## which handle an event touches -/

/-- event `x` is performed *through* handle `h`: an access or load via `h`, or a clone taken from `h` -/
def Uses (ops : List Op) (kinds : List AKind) : E → H → Prop
  | .rmw j, h => ∃ ch : H, ops[j]? = some (Op.inc ch h)
  | .oth a, h => ∃ k : AKind, kinds[a]? = some k ∧ k.via = some h

def Born (ops : List Op) : E → H → Prop
  | .rmw i, h => ∃ s : H, ops[i]? = some (Op.inc h s)
  | .oth _, _ => False

def Touch (c : Cfg) (x : E) (h : H) : Prop := Uses c.ops c.kinds x h ∨ Born c.ops x h

theorem uses_snoc_inc {ops : List Op} {kinds : List AKind} {ch s : H} {x : E} {h : H} :
    Uses (ops ++ [Op.inc ch s]) kinds x h ↔ Uses ops kinds x h ∨ (x = .rmw ops.length ∧ s = h) := by
  cases x with
  | oth a => simp [Uses]
  | rmw j =>
    simp only [Uses, getElem?_snoc, Op.inc.injEq, Ev.rmw.injEq, exists_or, exists_and_left, exists_and_right, exists_eq',
      true_and]

theorem born_snoc_inc {ops : List Op} {ch s : H} {x : E} {h : H} :
    Born (ops ++ [Op.inc ch s]) x h ↔ Born ops x h ∨ (x = .rmw ops.length ∧ ch = h) := by
  cases x with
  | oth a => simp [Born]
  | rmw j =>
    simp only [Born, getElem?_snoc, Op.inc.injEq, Ev.rmw.injEq, exists_or, exists_and_left, exists_eq', and_true]

theorem uses_snoc_dec {ops : List Op} {kinds : List AKind} {d : H} {x : E} {h : H} :
    Uses (ops ++ [Op.dec d]) kinds x h ↔ Uses ops kinds x h := by
  cases x with
  | oth a => rfl
  | rmw j => simp [Uses, getElem?_snoc]

theorem born_snoc_dec {ops : List Op} {d : H} {x : E} {h : H} :
    Born (ops ++ [Op.dec d]) x h ↔ Born ops x h := by
  cases x with
  | oth a => rfl
  | rmw j => simp [Born, getElem?_snoc]

theorem uses_snoc_kind {ops : List Op} {kinds : List AKind} {k : AKind} {x : E} {h : H} :
    Uses ops (kinds ++ [k]) x h ↔ Uses ops kinds x h ∨ (x = .oth kinds.length ∧ k.via = some h) := by
  cases x with
  | rmw j => simp [Uses]
  | oth a =>
    simp only [Uses, getElem?_snoc, Ev.oth.injEq, or_and_right, and_assoc, exists_or, exists_and_left, exists_eq_left']

theorem exists_born {ops : List Op} {h : H} (hk : h ∈ kids ops) : ∃ (i : Nat) (s : H), ops[i]? = some (Op.inc h s) := by
  obtain ⟨s, hs⟩ := mem_kids.1 hk
  obtain ⟨i, hi⟩ := List.mem_iff_getElem?.1 hs
  exact ⟨i, s, hi⟩

/-! ## the current position of a thread -/

def CovL (R : E → E → Prop) (l : List E) (x : E) : Prop := ∃ y, y ∈ l ∧ (x = y ∨ R x y)

/-- `x` happens-before the current position of thread `t` -/
def Cov (R : E → E → Prop) (c : Cfg) (t : Nat) (x : E) : Prop := CovL R (front c t) x

def EdgesIn (R : E → E → Prop) (c : Cfg) : Prop := ∀ p, p ∈ c.po ∨ p ∈ c.sw → R p.1 p.2

theorem mem_lastEv {l : List E} {y : E} (h : y ∈ lastEv l) : y ∈ l := by
  cases l with
  | nil => simp [lastEv] at h
  | cons a r => simp [lastEv] at h; simp [h]

theorem front_emit_self (c : Cfg) (t : Nat) (e : E) : front (emit c t e) t = [e] := by
  simp [front, emit, lastEv]

theorem front_emit_other (c : Cfg) {t t' : Nat} (e : E) (h : t' ≠ t) : front (emit c t e) t' = front c t' := by
  simp [front, emit, upd_other _ _ h]

theorem mem_front_emit (c : Cfg) (t : Nat) (e : E) : e ∈ front (emit c t e) t := by
  rw [front_emit_self]; exact List.mem_singleton.2 rfl

theorem front_edge {R : E → E → Prop} {c : Cfg} {t : Nat} {e y : E} (hE : EdgesIn R (emit c t e))
    (hy : y ∈ front c t) : R y e := by
  rcases List.mem_append.1 hy with hy | hy
  · exact hE (y, e) (Or.inl (List.mem_append_right _ (List.mem_map_of_mem (mem_lastEv hy))))
  · exact hE (y, e) (Or.inr (List.mem_append_right _ (List.mem_map_of_mem hy)))

theorem edgesIn_of_emit {R : E → E → Prop} {c : Cfg} {t : Nat} {e : E} (hE : EdgesIn R (emit c t e)) : EdgesIn R c :=
  fun p hp => hE p (hp.imp (List.mem_append_left _) (List.mem_append_left _))

theorem cov_R {R : E → E → Prop} (hT : ∀ a b c, R a b → R b c → R a c) {c : Cfg} {t : Nat} {e x : E}
    (hE : EdgesIn R (emit c t e)) (hc : Cov R c t x) : R x e := by
  obtain ⟨y, hy, h⟩ := hc
  rcases h with rfl | h
  · exact front_edge hE hy
  · exact hT _ _ _ h (front_edge hE hy)

theorem cov_emit_new {R : E → E → Prop} {c : Cfg} {t : Nat} {e : E} : Cov R (emit c t e) t e :=
  ⟨e, mem_front_emit c t e, Or.inl rfl⟩

theorem cov_emit_mono {R : E → E → Prop} (hT : ∀ a b c, R a b → R b c → R a c) {c : Cfg} {t t' : Nat} {e x : E}
    (hE : EdgesIn R (emit c t e)) (hc : Cov R c t' x) : Cov R (emit c t e) t' x := by
  by_cases h : t' = t
  · subst h; exact ⟨e, mem_front_emit c t' e, Or.inr (cov_R hT hE hc)⟩
  · unfold Cov; rw [front_emit_other c e h]; exact hc

theorem mem_front_give {c : Cfg} {t t' t'' : Nat} {y : E} :
    y ∈ front (give c t t') t'' ↔ (t'' = t' ∧ y ∈ front c t) ∨ y ∈ front c t'' := by
  by_cases h : t'' = t'
  · subst h; simp only [front, give, upd_same, List.mem_append, true_and]; exact or_left_comm
  · simp only [front, give, upd_other _ _ h, h, false_and, false_or]

theorem cov_give_mono {R : E → E → Prop} {c : Cfg} {t t' t'' : Nat} {x : E}
    (hc : Cov R c t'' x) : Cov R (give c t t') t'' x :=
  have ⟨y, hy, h⟩ := hc
  ⟨y, mem_front_give.2 (Or.inr hy), h⟩

theorem cov_give {R : E → E → Prop} {c : Cfg} {t t' : Nat} {x : E}
    (hc : Cov R c t x) : Cov R (give c t t') t' x :=
  have ⟨y, hy, h⟩ := hc
  ⟨y, mem_front_give.2 (Or.inl ⟨rfl, hy⟩), h⟩

/-! ## the data invariant (no happens-before involved) -/

structure InvA (decOrd : MemOrd) (c : Cfg) : Prop where
  /-- the modification order is a well-formed counting history: freshness of child ids, single release and
  "released ⇒ born" are facts about such histories (`WF.fresh`, `WF.dec_once`, `WF.dead_born`) -/
  wf : WF c.ops
  owned_live : ∀ {h t : Nat}, c.own h = some t → h ∈ (run c.ops).live
  uses_born : ∀ {x : E} {h : H}, Uses c.ops c.kinds x h → h = 0 ∨ h ∈ kids c.ops
  ords_len : c.ords.length = c.ops.length
  dec_ord : ∀ {i : Nat} {h : H}, c.ops[i]? = some (Op.dec h) → c.ords[i]? = some decOrd
  stamps_len : c.stamps.length = c.kinds.length
  stamp_le : ∀ {a n : Nat}, c.stamps[a]? = some n → n ≤ c.ops.length
  destroy_data : ∀ {f k : Nat}, c.kinds[f]? = some (AKind.destroy k) →
      (∃ h : H, c.ops[k]? = some (Op.dec h)) ∧ (run (c.ops.take k)).val = 1
  destroy_inj : ∀ {f₁ f₂ k : Nat}, c.kinds[f₁]? = some (AKind.destroy k) → c.kinds[f₂]? = some (AKind.destroy k) → f₁ = f₂

variable {decOrd : MemOrd} {fenceOrd : Option MemOrd}

theorem InvA.own_live {c : Cfg} (hA : InvA decOrd c) {h t : Nat} (ho : c.own h = some t) :
    (h = 0 ∨ h ∈ kids c.ops) ∧ h ∉ deads c.ops := by
  have := ((live_iff hA.wf).1 h).1 (hA.owned_live ho)
  rwa [born_run] at this

theorem InvA.dead_born {c : Cfg} (hA : InvA decOrd c) {h : H} (hd : h ∈ deads c.ops) : h = 0 ∨ h ∈ kids c.ops :=
  WF.dead_born hA.wf hd

theorem InvA.fresh {c : Cfg} (hA : InvA decOrd c) {i j : Nat} {ch s s' : H} (hi : c.ops[i]? = some (Op.inc ch s))
    (hj : c.ops[j]? = some (Op.inc ch s')) : i = j := (WF.fresh hA.wf hi hj).1

theorem InvA.kid_ne_zero {c : Cfg} (hA : InvA decOrd c) {i : Nat} {ch s : H} (hi : c.ops[i]? = some (Op.inc ch s)) :
    ch ≠ 0 := (WF.fresh hA.wf hi hi).2

theorem InvA.dec_once {c : Cfg} (hA : InvA decOrd c) {i j : Nat} {h : H} (hi : c.ops[i]? = some (Op.dec h))
    (hj : c.ops[j]? = some (Op.dec h)) : i = j := WF.dec_once hA.wf hi hj

theorem invA_init : InvA decOrd Cfg.init := by
  refine ⟨WF.nil, ?_, ?_, rfl, ?_, rfl, ?_, ?_, ?_⟩
  · intro h t ho
    simp only [Cfg.init] at ho
    by_cases e : h = 0
    · rw [e]; exact List.mem_singleton.2 rfl
    · rw [if_neg e] at ho; cases ho
  · intro x h hu
    cases x with
    | rmw j => obtain ⟨ch, hc⟩ := hu; simp [Cfg.init] at hc
    | oth a => obtain ⟨k, hk, _⟩ := hu; simp [Cfg.init] at hk
  all_goals (intros; simp [Cfg.init] at *)

theorem invA_useStep {c : Cfg} (hA : InvA decOrd c) {t : Nat} (k : AKind)
    (hv : ∀ h, k.via = some h → c.own h = some t)
    (hd : ∀ k', k = AKind.destroy k' → ((∃ h : H, c.ops[k']? = some (Op.dec h)) ∧ (run (c.ops.take k')).val = 1) ∧
      ∀ f : Nat, c.kinds[f]? ≠ some (AKind.destroy k')) :
    InvA decOrd (useStep c t k) := by
  refine ⟨hA.wf, hA.owned_live, ?_, hA.ords_len, hA.dec_ord, ?_, ?_, ?_, ?_⟩
  · intro x h hu
    rcases uses_snoc_kind.1 hu with hu | ⟨_, hu⟩
    · exact hA.uses_born hu
    · exact (hA.own_live (hv h hu)).1
  · simp [useStep, emit, pushKind, hA.stamps_len]
  · intro a n hs
    rcases getElem?_snoc.1 hs with hs | ⟨_, rfl⟩
    · exact hA.stamp_le hs
    · exact Nat.le_refl _
  · intro f k' hf
    rcases getElem?_snoc.1 hf with hf | ⟨_, rfl⟩
    · exact hA.destroy_data hf
    · exact (hd k' rfl).1
  · intro f₁ f₂ k' h₁ h₂
    rcases getElem?_snoc.1 h₁ with g₁ | ⟨e₁, q₁⟩
    · rcases getElem?_snoc.1 h₂ with g₂ | ⟨e₂, q₂⟩
      · exact hA.destroy_inj g₁ g₂
      · exact absurd g₁ ((hd k' q₂).2 f₁)
    · rcases getElem?_snoc.1 h₂ with g₂ | ⟨e₂, _⟩
      · exact absurd g₂ ((hd k' q₁).2 f₂)
      · rw [e₁, e₂]

theorem known_snoc {ops : List Op} (o : Op) {h : H} (hk : h = 0 ∨ h ∈ kids ops) : h = 0 ∨ h ∈ kids (ops ++ [o]) :=
  hk.imp id fun hk => kids_append _ _ ▸ List.mem_append_left _ hk

/-- A clone or a decrement: the three fields that depend on which RMW it is are left to the caller, the others only see
that an RMW was appended. -/
theorem invA_rmw {c : Cfg} (hA : InvA decOrd c) {o : Op} {m : MemOrd} {t : Nat} {e : E} {h : H} {v : Option Nat}
    (hm : ∀ h, o = Op.dec h → m = decOrd) (hwf : WF (c.ops ++ [o]))
    (hlive : ∀ {h' t' : Nat}, upd c.own h v h' = some t' → h' ∈ (run (c.ops ++ [o])).live)
    (huses : ∀ {x : E} {h' : H}, Uses (c.ops ++ [o]) c.kinds x h' → h' = 0 ∨ h' ∈ kids (c.ops ++ [o])) :
    InvA decOrd (setOwn (emit (pushOp c o m) t e) h v) := by
  refine ⟨hwf, hlive, huses, ?_, ?_, hA.stamps_len, ?_, ?_, hA.destroy_inj⟩
  · show (c.ords ++ [m]).length = (c.ops ++ [o]).length
    simp [hA.ords_len]
  · intro i h hi
    rcases getElem?_snoc.1 hi with hi | ⟨ei, eo⟩
    · exact getElem?_snoc.2 (Or.inl (hA.dec_ord hi))
    · exact getElem?_snoc.2 (Or.inr ⟨by rw [ei, hA.ords_len], hm h eo⟩)
  · intro a n hs
    exact Nat.le_trans (hA.stamp_le hs) (by show _ ≤ (c.ops ++ [o]).length; simp)
  · intro f k hf
    obtain ⟨⟨h', hk⟩, hval⟩ := hA.destroy_data hf
    refine ⟨⟨h', getElem?_snoc.2 (Or.inl hk)⟩, ?_⟩
    show (run ((c.ops ++ [o]).take k)).val = 1
    rw [List.take_append_of_le_length (Nat.le_of_lt (lt_of_getElem? hk))]; exact hval

theorem invA_clone {c : Cfg} (hA : InvA decOrd c) {t : Nat} {h ch : H} (ho : c.own h = some t)
    (h0 : ch ≠ 0) (hf : ch ∉ kids c.ops) : InvA decOrd (cloneStep c t h ch) := by
  refine invA_rmw hA (fun _ e => nomatch e) ?_ ?_ ?_
  · exact WF.snoc hA.wf ⟨hA.owned_live ho, fun hb => ((born_run _ _).1 hb).elim h0 hf⟩
  · intro h' t' ho'
    rw [run_snoc]
    rcases upd_some_eq.1 ho' with ⟨rfl, _⟩ | ⟨_, ho'⟩
    · exact List.mem_cons_self
    · exact List.mem_cons_of_mem _ (hA.owned_live ho')
  · intro x h' hu
    rcases uses_snoc_inc.1 hu with hu | ⟨_, rfl⟩
    · exact known_snoc _ (hA.uses_born hu)
    · exact known_snoc _ (hA.own_live ho).1

theorem invA_dec {c : Cfg} (hA : InvA decOrd c) {t : Nat} {h : H} (ho : c.own h = some t) :
    InvA decOrd (decStep decOrd c t h) := by
  refine invA_rmw hA (fun _ _ => rfl) (WF.snoc hA.wf (hA.owned_live ho)) ?_ ?_
  · intro h' t' ho'
    rw [run_snoc]
    obtain ⟨e, ho'⟩ := upd_none_eq.1 ho'
    exact (List.mem_erase_of_ne e).2 (hA.owned_live ho')
  · intro x h' hu
    exact known_snoc _ (hA.uses_born (uses_snoc_dec.1 hu))

theorem invA_give {c : Cfg} (hA : InvA decOrd c) (t t' : Nat) : InvA decOrd (give c t t') :=
  ⟨hA.wf, hA.owned_live, hA.uses_born, hA.ords_len, hA.dec_ord, hA.stamps_len, hA.stamp_le, hA.destroy_data, hA.destroy_inj⟩

theorem invA_send {c : Cfg} (hA : InvA decOrd c) {t : Nat} {h : H} (t' : Nat) (ho : c.own h = some t) :
    InvA decOrd (setOwn (give c t t') h (some t')) := by
  refine ⟨hA.wf, ?_, hA.uses_born, hA.ords_len, hA.dec_ord, hA.stamps_len, hA.stamp_le, hA.destroy_data, hA.destroy_inj⟩
  intro h' t'' ho'
  rcases upd_some_eq.1 ho' with ⟨rfl, _⟩ | ⟨_, ho'⟩
  · exact hA.owned_live ho
  · exact hA.owned_live ho'

/-! ## the ownership-chain invariant -/

/-- the edges `destroy_shape` asks for -/
def DestroyEdges (fenceOrd : Option MemOrd) (R : E → E → Prop) (kinds : List AKind) (k f : Nat) : Prop :=
  match fenceOrd with
  | some o => ∃ (l : Nat) (rf : Option Nat), kinds[l]? = some (AKind.fenceLoad k o rf) ∧ R (.rmw k) (.oth l) ∧ R (.oth l) (.oth f)
  | none => R (.rmw k) (.oth f)

theorem destroyEdges_snoc {R : E → E → Prop} {kinds : List AKind} {k f : Nat} (x : AKind)
    (h : DestroyEdges fenceOrd R kinds k f) : DestroyEdges fenceOrd R (kinds ++ [x]) k f := by
  cases fenceOrd with
  | none => exact h
  | some o =>
    obtain ⟨l, rf, h1, h2⟩ := h
    exact ⟨l, rf, getElem?_snoc.2 (Or.inl h1), h2⟩

structure InvB (fenceOrd : Option MemOrd) (R : E → E → Prop) (c : Cfg) : Prop where
  /-- **owner chain**: whatever touched `h` so far is hb-before the current position of `h`'s owner -/
  cov : ∀ {h t : Nat} {x : E}, c.own h = some t → Touch c x h → Cov R c t x
  dead : ∀ {k : Nat} {h : H} {x : E}, c.ops[k]? = some (Op.dec h) → Touch c x h → R x (.rmw k)
  born : ∀ {x : E} {h : H} {i : Nat} {s : H}, Uses c.ops c.kinds x h → c.ops[i]? = some (Op.inc h s) → R (.rmw i) x
  destroy_edges : ∀ {f k : Nat}, c.kinds[f]? = some (AKind.destroy k) → DestroyEdges fenceOrd R c.kinds k f
  /-- a non-RMW event through `h` is hb-ordered with every RMW touching `h`, the way round the run performed them -/
  seq : ∀ {a n i : Nat} {h : H}, c.stamps[a]? = some n → Uses c.ops c.kinds (.oth a) h → Touch c (.rmw i) h →
      (i < n → R (.rmw i) (.oth a)) ∧ (n ≤ i → R (.oth a) (.rmw i))

theorem touch_born {c : Cfg} (hA : InvA decOrd c) {x : E} {h : H} (ht : Touch c x h) : h = 0 ∨ h ∈ kids c.ops := by
  rcases ht with hu | hb
  · exact hA.uses_born hu
  · cases x with
    | oth a => cases hb
    | rmw i => obtain ⟨s, hs⟩ := hb; exact Or.inr (mem_kids.2 ⟨s, List.mem_of_getElem? hs⟩)

theorem touch_rmw_lt {c : Cfg} {i : Nat} {h : H} (ht : Touch c (.rmw i) h) : i < c.ops.length := by
  rcases ht with ⟨_, hu⟩ | ⟨_, hb⟩
  · exact lt_of_getElem? hu
  · exact lt_of_getElem? hb

theorem uses_oth_lt {ops : List Op} {kinds : List AKind} {a : Nat} {h : H} (hu : Uses ops kinds (.oth a) h) :
    a < kinds.length := by
  obtain ⟨_, hk, _⟩ := hu
  exact lt_of_getElem? hk

theorem invB_init (R : E → E → Prop) : InvB fenceOrd R Cfg.init := by
  refine ⟨?_, ?_, ?_, ?_, ?_⟩
  · intro h t x _ ht; cases x <;> simp [Touch, Uses, Born, Cfg.init] at ht
  · intro k h x hk; simp [Cfg.init] at hk
  · intro x h i s _ hi; simp [Cfg.init] at hi
  · intro f k hf; simp [Cfg.init] at hf
  · intro a n i h hs; simp [Cfg.init] at hs

theorem touch_useStep {c : Cfg} {t : Nat} {k : AKind} {x : E} {h : H} :
    Touch (useStep c t k) x h ↔ Touch c x h ∨ (x = .oth c.kinds.length ∧ k.via = some h) := by
  show Uses c.ops (c.kinds ++ [k]) x h ∨ Born c.ops x h ↔ _
  rw [uses_snoc_kind, or_right_comm]; rfl

def DestroyPre (fenceOrd : Option MemOrd) (R : E → E → Prop) (c : Cfg) (t k : Nat) : Prop :=
  match fenceOrd with
  | some o => ∃ (l : Nat) (rf : Option Nat), c.kinds[l]? = some (AKind.fenceLoad k o rf) ∧ R (.rmw k) (.oth l) ∧
      Ev.oth l ∈ front c t
  | none => Ev.rmw k ∈ front c t

theorem invB_useStep {R : E → E → Prop} (hT : ∀ a b c, R a b → R b c → R a c) {c : Cfg}
    (hA : InvA decOrd c) (hB : InvB fenceOrd R c) {t : Nat} (k : AKind)
    (hv : ∀ h, k.via = some h → c.own h = some t)
    (hd : ∀ k', k = AKind.destroy k' → DestroyPre fenceOrd R c t k')
    (hE : EdgesIn R (useStep c t k)) : InvB fenceOrd R (useStep c t k) := by
  -- whatever touched a handle that the new event goes through precedes the new event
  have hnew : ∀ {h : H} {x : E}, k.via = some h → Touch c x h → R x (.oth c.kinds.length) :=
    fun hvia ht => cov_R hT hE (hB.cov (hv _ hvia) ht)
  refine ⟨?_, ?_, ?_, ?_, ?_⟩
  · intro h t' x ho ht
    rcases touch_useStep.1 ht with ht | ⟨rfl, hvia⟩
    · exact cov_emit_mono hT hE (hB.cov ho ht)
    · cases (hv h hvia).symm.trans ho
      exact cov_emit_new
  · intro k0 h x hk ht
    rcases touch_useStep.1 ht with ht | ⟨rfl, hvia⟩
    · exact hB.dead hk ht
    · exact absurd (mem_deads.2 (List.mem_of_getElem? hk)) (hA.own_live (hv h hvia)).2
  · intro x h i s hu hi
    rcases uses_snoc_kind.1 hu with hu | ⟨rfl, hvia⟩
    · exact hB.born hu hi
    · exact hnew hvia (Or.inr ⟨s, hi⟩)
  · intro f k' hf
    rcases getElem?_snoc.1 hf with hf | ⟨rfl, hkk⟩
    · exact destroyEdges_snoc _ (hB.destroy_edges hf)
    · cases fenceOrd with
      | none => exact front_edge hE (hd k' hkk)
      | some o =>
        obtain ⟨l, rf, h1, h2, h3⟩ := hd k' hkk
        exact ⟨l, rf, getElem?_snoc.2 (Or.inl h1), h2, front_edge hE h3⟩
  · intro a n i h hs hu ht
    have hs : (c.stamps ++ [c.ops.length])[a]? = some n := hs
    rcases uses_snoc_kind.1 hu with hu | ⟨e, hvia⟩
    · rw [List.getElem?_append_left (hA.stamps_len ▸ uses_oth_lt hu)] at hs
      exact hB.seq hs hu ht
    · -- the new event: it was issued after every RMW so far
      cases e
      rw [← hA.stamps_len, List.getElem?_concat_length] at hs
      cases hs
      exact ⟨fun _ => hnew hvia ht, fun hle => absurd (touch_rmw_lt ht) (Nat.not_lt.2 hle)⟩

theorem touch_cloneStep {c : Cfg} {t : Nat} {h ch : H} {x : E} {h' : H} :
    Touch (cloneStep c t h ch) x h' ↔ Touch c x h' ∨ (x = .rmw c.ops.length ∧ (h = h' ∨ ch = h')) := by
  show Uses (c.ops ++ [Op.inc ch h]) c.kinds x h' ∨ Born (c.ops ++ [Op.inc ch h]) x h' ↔ _
  rw [uses_snoc_inc, born_snoc_inc, or_or_or_comm, ← and_or_left]; rfl

theorem invB_clone {R : E → E → Prop} (hT : ∀ a b c, R a b → R b c → R a c) {c : Cfg}
    (hA : InvA decOrd c) (hB : InvB fenceOrd R c) {t : Nat} {h ch : H} (ho : c.own h = some t)
    (h0 : ch ≠ 0) (hf : ch ∉ kids c.ops)
    (hE : EdgesIn R (cloneStep c t h ch)) : InvB fenceOrd R (cloneStep c t h ch) := by
  have hE' : EdgesIn R (emit (pushOp c (Op.inc ch h) .relaxed) t (.rmw c.ops.length)) := hE
  -- the new handle is not known yet: nothing touched it, it is not `h`, it is not released
  have hch : ¬ (ch = 0 ∨ ch ∈ kids c.ops) := fun hk => hk.elim h0 hf
  have hnt : ∀ x, ¬ Touch c x ch := fun x ht => hch (touch_born hA ht)
  have hne : h ≠ ch := fun e => hch (e ▸ (hA.own_live ho).1)
  -- whatever touched `h` precedes the clone
  have hnew : ∀ {x : E}, Touch c x h → R x (.rmw c.ops.length) := fun ht => cov_R hT hE' (hB.cov ho ht)
  refine ⟨?_, ?_, ?_, ?_, ?_⟩
  · intro h' t' x ho' ht
    rcases upd_some_eq.1 ho' with ⟨rfl, rfl⟩ | ⟨e, go⟩
    · rcases touch_cloneStep.1 ht with gt | ⟨rfl, _⟩
      · exact absurd gt (hnt _)
      · exact cov_emit_new
    · rcases touch_cloneStep.1 ht with gt | ⟨rfl, rfl | rfl⟩
      · exact cov_emit_mono hT hE' (hB.cov go gt)
      · cases ho.symm.trans go
        exact cov_emit_new
      · exact absurd rfl e
  · intro k0 h' x hk ht
    have gk : c.ops[k0]? = some (Op.dec h') := (getElem?_snoc.1 hk).resolve_right fun q => nomatch q.2
    have hdead : h' ∈ deads c.ops := mem_deads.2 (List.mem_of_getElem? gk)
    rcases touch_cloneStep.1 ht with gt | ⟨_, rfl | rfl⟩
    · exact hB.dead gk gt
    · exact absurd hdead (hA.own_live ho).2
    · exact absurd (hA.dead_born hdead) hch
  · intro x h' i s hu hi
    have hb : Born (c.ops ++ [Op.inc ch h]) (.rmw i) h' := ⟨s, hi⟩
    rcases uses_snoc_inc.1 hu with gu | ⟨rfl, rfl⟩
    · rcases born_snoc_inc.1 hb with ⟨_, gi⟩ | ⟨_, rfl⟩
      · exact hB.born gu gi
      · exact absurd (Or.inl gu) (hnt _)
    · rcases born_snoc_inc.1 hb with gb | ⟨_, e⟩
      · exact hnew (Or.inr gb)
      · exact absurd e.symm hne
  · intro f k hf'; exact hB.destroy_edges hf'
  · intro a n i h' hs hu ht
    have gu : Uses c.ops c.kinds (.oth a) h' := hu
    rcases touch_cloneStep.1 ht with gt | ⟨e, rfl | rfl⟩
    · exact hB.seq hs gu gt
    · -- the clone comes after every non-RMW event so far
      cases e
      exact ⟨fun hlt => absurd (hA.stamp_le hs) (Nat.not_le.2 hlt), fun _ => hnew (Or.inl gu)⟩
    · exact absurd (Or.inl gu) (hnt _)

theorem touch_decStep {c : Cfg} {t : Nat} {h : H} {x : E} {h' : H} :
    Touch (decStep decOrd c t h) x h' ↔ Touch c x h' := or_congr uses_snoc_dec born_snoc_dec

theorem invB_dec {R : E → E → Prop} (hT : ∀ a b c, R a b → R b c → R a c) {c : Cfg}
    (hB : InvB fenceOrd R c) {t : Nat} {h : H} (ho : c.own h = some t)
    (hE : EdgesIn R (decStep decOrd c t h)) : InvB fenceOrd R (decStep decOrd c t h) := by
  have hE' : EdgesIn R (emit (pushOp c (Op.dec h) decOrd) t (.rmw c.ops.length)) := hE
  refine ⟨?_, ?_, ?_, ?_, ?_⟩
  · intro h' t' x ho' ht
    obtain ⟨_, ho'⟩ := upd_none_eq.1 ho'
    exact cov_emit_mono hT hE' (hB.cov ho' (touch_decStep.1 ht))
  · intro k0 h' x hk ht
    have ht := touch_decStep.1 ht
    rcases getElem?_snoc.1 hk with hk | ⟨rfl, q⟩
    · exact hB.dead hk ht
    · cases q
      exact cov_R hT hE' (hB.cov ho ht)
  · intro x h' i s hu hi
    exact hB.born (uses_snoc_dec.1 hu) ((getElem?_snoc.1 hi).resolve_right fun q => nomatch q.2)
  · intro f k hf'; exact hB.destroy_edges hf'
  · intro a n i h' hs hu ht
    exact hB.seq hs hu (touch_decStep.1 ht)

theorem invB_send {R : E → E → Prop} {c : Cfg} (hB : InvB fenceOrd R c) {t : Nat} {h : H} (t' : Nat)
    (ho : c.own h = some t) : InvB fenceOrd R (setOwn (give c t t') h (some t')) := by
  refine ⟨?_, hB.dead, hB.born, hB.destroy_edges, hB.seq⟩
  intro h' t'' x ho' ht
  rcases upd_some_eq.1 ho' with ⟨rfl, rfl⟩ | ⟨_, ho'⟩
  · exact cov_give (hB.cov ho ht)
  · exact cov_give_mono (hB.cov ho' ht)

theorem invB_sync {R : E → E → Prop} {c : Cfg} (hB : InvB fenceOrd R c) (t t' : Nat) :
    InvB fenceOrd R (give c t t') :=
  ⟨fun ho' ht => cov_give_mono (hB.cov ho' ht), hB.dead, hB.born, hB.destroy_edges, hB.seq⟩

/-! ## one step preserves both invariants -/

/-- A successful step is one of six moves, each with the guard that enabled it; `access` and `load` are the same move
(`useStep` of an event of a kind other than `destroy`, through handles that `t` owns). -/
theorem step_cases {c c' : Cfg} {t : Nat} {ins : Instr} {motive : Cfg → Prop}
    (hs : step decOrd fenceOrd c t ins = some c')
    (clone : ∀ h ch, c.own h = some t → ch ≠ 0 → ch ∉ kids c.ops → motive (cloneStep c t h ch))
    (use : ∀ k, (∀ h, k.via = some h → c.own h = some t) → (∀ k', k ≠ .destroy k') → motive (useStep c t k))
    (dec : ∀ h, c.own h = some t → motive (decStep decOrd c t h))
    (last : ∀ h frf, c.own h = some t → (run c.ops).val = 1 →
      motive (destroyStep (fenceStep fenceOrd (decStep decOrd c t h) t c.ops.length frf) t c.ops.length))
    (send : ∀ h t', c.own h = some t → motive (setOwn (give c t t') h (some t')))
    (sync : ∀ t', motive (give c t t')) : motive c' := by
  cases ins with
  | clone h ch =>
    obtain ⟨⟨ho, h0, hf⟩, e⟩ := Option.ite_none_right_eq_some.1 hs
    cases e; exact clone h ch ho h0 hf
  | access h =>
    obtain ⟨ho, e⟩ := Option.ite_none_right_eq_some.1 hs
    cases e; exact use _ (fun _ e => by cases e; exact ho) (fun _ e => nomatch e)
  | load h o rf =>
    obtain ⟨ho, e⟩ := Option.ite_none_right_eq_some.1 hs
    cases e; exact use _ (fun _ e => by cases e; exact ho) (fun _ e => nomatch e)
  | drop h frf =>
    obtain ⟨ho, e⟩ := Option.ite_none_right_eq_some.1 hs
    split at e
    · rename_i hval; cases e; exact last h frf ho hval
    · cases e; exact dec h ho
  | send h t' =>
    obtain ⟨ho, e⟩ := Option.ite_none_right_eq_some.1 hs
    cases e; exact send h t' ho
  | sync t' => cases hs; exact sync t'

/-- a clone or a decrement -/
theorem edgesIn_of_rmw {R : E → E → Prop} {c : Cfg} {o : Op} {m : MemOrd} {t : Nat} {e : E} {h : H} {v : Option Nat}
    (hE : EdgesIn R (setOwn (emit (pushOp c o m) t e) h v)) : EdgesIn R c := edgesIn_of_emit (c := pushOp c o m) hE

theorem edgesIn_of_fenceStep {R : E → E → Prop} {c : Cfg} {t k : Nat} {frf : Option Nat}
    (hE : EdgesIn R (fenceStep fenceOrd c t k frf)) : EdgesIn R c := by
  cases fenceOrd with
  | none => exact hE
  | some o => exact edgesIn_of_emit hE

/-- the fence load and the `destroy` event of thread `t`, whose last event is the decrement `k` that read 1 -/
theorem inv_destroy {R : E → E → Prop} (hT : ∀ a b c, R a b → R b c → R a c) {c : Cfg} {t k : Nat}
    (frf : Option Nat) (hA : InvA decOrd c) (hB : InvB fenceOrd R c)
    (hk : (∃ h : H, c.ops[k]? = some (Op.dec h)) ∧ (run (c.ops.take k)).val = 1)
    (hnod : ∀ f : Nat, c.kinds[f]? ≠ some (AKind.destroy k)) (hfr : Ev.rmw k ∈ front c t)
    (hE : EdgesIn R (destroyStep (fenceStep fenceOrd c t k frf) t k)) :
    InvA decOrd (destroyStep (fenceStep fenceOrd c t k frf) t k) ∧
    InvB fenceOrd R (destroyStep (fenceStep fenceOrd c t k frf) t k) := by
  cases fenceOrd with
  | none =>
    refine ⟨invA_useStep hA _ (fun _ hv => nomatch hv) ?_, invB_useStep hT hA hB _ (fun _ hv => nomatch hv) ?_ hE⟩
    · intro k' e; cases e
      exact ⟨hk, hnod⟩
    · intro k' e; cases e
      exact hfr
  | some o =>
    have hE2 : EdgesIn R (useStep c t (.fenceLoad k o frf)) := edgesIn_of_emit hE
    have hA2 := invA_useStep hA (t := t) (.fenceLoad k o frf) (fun _ hv => nomatch hv) (fun _ e => nomatch e)
    have hB2 := invB_useStep hT hA hB (.fenceLoad k o frf) (fun _ hv => nomatch hv) (fun _ e => nomatch e) hE2
    refine ⟨invA_useStep hA2 _ (fun _ hv => nomatch hv) ?_, invB_useStep hT hA2 hB2 _ (fun _ hv => nomatch hv) ?_ hE⟩
    · intro k' e; cases e
      exact ⟨hk, fun f hf => hnod f ((getElem?_snoc.1 hf).resolve_right fun q => nomatch q.2)⟩
    · intro k' e; cases e
      exact ⟨c.kinds.length, frf, List.getElem?_concat_length, front_edge hE2 hfr, mem_front_emit _ t _⟩

theorem inv_step {R : E → E → Prop} (hT : ∀ a b c, R a b → R b c → R a c) {c c' : Cfg} {t : Nat} {ins : Instr}
    (hA : InvA decOrd c) (hB : InvB fenceOrd R c)
    (hs : step decOrd fenceOrd c t ins = some c') : EdgesIn R c' → InvA decOrd c' ∧ InvB fenceOrd R c' :=
  step_cases (motive := fun c' => EdgesIn R c' → InvA decOrd c' ∧ InvB fenceOrd R c') hs
    (fun _ _ ho h0 hf hE => ⟨invA_clone hA ho h0 hf, invB_clone hT hA hB ho h0 hf hE⟩)
    (fun k own hk hE =>
      ⟨invA_useStep hA k own (fun k' e => absurd e (hk k')),
       invB_useStep hT hA hB k own (fun k' e => absurd e (hk k')) hE⟩)
    (fun _ ho hE => ⟨invA_dec hA ho, invB_dec hT hB ho hE⟩)
    (fun h frf ho hval hE =>
      inv_destroy hT frf (invA_dec hA ho) (invB_dec hT hB ho (edgesIn_of_fenceStep (edgesIn_of_emit hE)))
        ⟨⟨h, List.getElem?_concat_length⟩, (List.take_left' rfl).symm ▸ hval⟩
        (fun _ hf => (hA.destroy_data hf).1.elim fun _ hk => Nat.lt_irrefl _ (lt_of_getElem? hk))
        (mem_front_emit (pushOp c (Op.dec h) decOrd) t _) hE)
    (fun _ t' ho _ => ⟨invA_send hA t' ho, invB_send hB t' ho⟩)
    (fun t' _ => ⟨invA_give hA t t', invB_sync hB t t'⟩)

theorem edgesIn_of_step {R : E → E → Prop} {c c' : Cfg} {t : Nat} {ins : Instr}
    (hs : step decOrd fenceOrd c t ins = some c') : EdgesIn R c' → EdgesIn R c :=
  step_cases (motive := fun c' => EdgesIn R c' → EdgesIn R c) hs
    (fun _ _ _ _ _ => edgesIn_of_rmw)
    (fun _ _ _ => edgesIn_of_emit)
    (fun _ _ => edgesIn_of_rmw)
    (fun _ _ _ _ hE => edgesIn_of_rmw (edgesIn_of_fenceStep (edgesIn_of_emit hE)))
    (fun _ _ _ hE => hE)
    (fun _ hE => hE)

theorem exec_induction {P : Cfg → Prop}
    (hstep : ∀ {c c' : Cfg} {t : Nat} {ins : Instr}, step decOrd fenceOrd c t ins = some c' → P c → P c') :
    ∀ (l : List (Nat × Instr)) {c c' : Cfg}, exec decOrd fenceOrd c l = some c' → P c → P c'
  | [], c, c', he, h => by simp only [exec] at he; cases he; exact h
  | (t, i) :: r, c, c', he, h => by
    simp only [exec] at he
    split at he
    · rename_i c1 hs
      exact exec_induction hstep r he (hstep hs h)
    · cases he

/-- both invariants at the end of an execution, for a transitive `R` that contains the edges recorded at the end: each
configuration on the way has them provided `R` contains ITS edges, and a step only adds edges -/
theorem inv_exec {R : E → E → Prop} (hT : ∀ a b c, R a b → R b c → R a c) (l : List (Nat × Instr)) {c c' : Cfg}
    (hA : InvA decOrd c) (hB : InvB fenceOrd R c) (he : exec decOrd fenceOrd c l = some c') (hE : EdgesIn R c') :
    InvA decOrd c' ∧ InvB fenceOrd R c' :=
  exec_induction (P := fun c => EdgesIn R c → InvA decOrd c ∧ InvB fenceOrd R c)
    (fun hs ih hE' => have ⟨hA1, hB1⟩ := ih (edgesIn_of_step hs hE'); inv_step hT hA1 hB1 hs hE') l he (fun _ => ⟨hA, hB⟩) hE

/-! ## every recorded edge joins events that exist -/

def InR (n : Nat) : E → Prop
  | .rmw _ => True
  | .oth a => a < n

theorem InR_mono {n m : Nat} (h : n ≤ m) {e : E} (he : InR n e) : InR m e := by
  cases e with
  | rmw _ => trivial
  | oth a => exact Nat.lt_of_lt_of_le he h

structure InvC (c : Cfg) : Prop where
  hist_in : ∀ {t : Nat} {e : E}, e ∈ c.hist t → InR c.kinds.length e
  pend_in : ∀ {t : Nat} {e : E}, e ∈ c.pend t → InR c.kinds.length e
  po_in : ∀ {p : E × E}, p ∈ c.po → InR c.kinds.length p.1 ∧ InR c.kinds.length p.2
  sw_in : ∀ {p : E × E}, p ∈ c.sw → InR c.kinds.length p.1 ∧ InR c.kinds.length p.2

theorem invC_init : InvC Cfg.init := by
  refine ⟨?_, ?_, ?_, ?_⟩ <;> intros <;> simp [Cfg.init] at *

theorem mem_upd {f : Nat → List E} {k x : Nat} {v : List E} {e : E} (h : e ∈ upd f k v x) : e ∈ v ∨ e ∈ f x := by
  by_cases hx : x = k
  · rw [hx, upd_same] at h; exact Or.inl h
  · rw [upd_other _ _ hx] at h; exact Or.inr h

theorem invC_emit {c : Cfg} (hC : InvC c) (t : Nat) {e : E} (he : InR c.kinds.length e) : InvC (emit c t e) := by
  refine ⟨?_, ?_, ?_, ?_⟩
  · intro t' x hx
    rcases mem_upd hx with hx | hx
    · rcases List.mem_cons.1 hx with rfl | hx
      · exact he
      · exact hC.hist_in hx
    · exact hC.hist_in hx
  · intro t' x hx
    rcases mem_upd hx with hx | hx
    · cases hx
    · exact hC.pend_in hx
  · intro p hp
    rcases List.mem_append.1 hp with hp | hp
    · exact hC.po_in hp
    · obtain ⟨x, hx, rfl⟩ := List.mem_map.1 hp
      exact ⟨hC.hist_in hx, he⟩
  · intro p hp
    rcases List.mem_append.1 hp with hp | hp
    · exact hC.sw_in hp
    · obtain ⟨x, hx, rfl⟩ := List.mem_map.1 hp
      exact ⟨hC.pend_in hx, he⟩

theorem invC_pushKind {c : Cfg} (hC : InvC c) (k : AKind) : InvC (pushKind c k) := by
  have hle : c.kinds.length ≤ (c.kinds ++ [k]).length := by simp
  exact ⟨fun hx => InR_mono hle (hC.hist_in hx), fun hx => InR_mono hle (hC.pend_in hx),
    fun hp => ⟨InR_mono hle (hC.po_in hp).1, InR_mono hle (hC.po_in hp).2⟩,
    fun hp => ⟨InR_mono hle (hC.sw_in hp).1, InR_mono hle (hC.sw_in hp).2⟩⟩

theorem invC_setOwn {c : Cfg} (hC : InvC c) (h : H) (v : Option Nat) : InvC (setOwn c h v) :=
  ⟨hC.hist_in, hC.pend_in, hC.po_in, hC.sw_in⟩

theorem invC_give {c : Cfg} (hC : InvC c) (t t' : Nat) : InvC (give c t t') := by
  refine ⟨hC.hist_in, ?_, hC.po_in, hC.sw_in⟩
  intro t'' x hx
  rcases mem_upd hx with hx | hx
  · rcases List.mem_append.1 hx with hx | hx
    · rcases List.mem_append.1 hx with hx | hx
      · exact hC.hist_in (mem_lastEv hx)
      · exact hC.pend_in hx
    · exact hC.pend_in hx
  · exact hC.pend_in hx

theorem invC_useStep {c : Cfg} (hC : InvC c) (t : Nat) (k : AKind) : InvC (useStep c t k) :=
  invC_emit (invC_pushKind hC k) t (by show c.kinds.length < (c.kinds ++ [k]).length; simp)

/-- a clone or a decrement -/
theorem invC_rmw {c : Cfg} (hC : InvC c) (t : Nat) {o : Op} {m : MemOrd} {h : H} {v : Option Nat} :
    InvC (setOwn (emit (pushOp c o m) t (.rmw c.ops.length)) h v) :=
  have hC' : InvC (pushOp c o m) := ⟨hC.hist_in, hC.pend_in, hC.po_in, hC.sw_in⟩
  invC_setOwn (invC_emit hC' t (e := .rmw c.ops.length) trivial) h v

theorem invC_step {c c' : Cfg} {t : Nat} {ins : Instr} (hC : InvC c)
    (hs : step decOrd fenceOrd c t ins = some c') : InvC c' :=
  step_cases hs
    (fun _ _ _ _ _ => invC_rmw hC t)
    (fun _ _ _ => invC_useStep hC t _)
    (fun _ _ => invC_rmw hC t)
    (fun h frf _ _ => invC_useStep (by
      cases fenceOrd with
      | none => exact invC_rmw hC t
      | some o => exact invC_useStep (invC_rmw hC t) t _) t _)
    (fun _ _ _ => invC_setOwn (invC_give hC t _) _ _)
    (fun _ => invC_give hC t _)

/-! ## the induced execution -/

def lift {n : Nat} : Ev (Fin n) → E
  | .rmw i => .rmw i
  | .oth a => .oth a.val

theorem lift_inj {n : Nat} {x y : Ev (Fin n)} (h : lift x = lift y) : x = y := by
  cases x <;> cases y <;> simp [lift] at h
  · rw [h]
  · rw [Fin.ext h]

theorem exists_lift {n : Nat} {e : E} (h : InR n e) : ∃ x : Ev (Fin n), lift x = e := by
  cases e with
  | rmw i => exact ⟨.rmw i, rfl⟩
  | oth a => exact ⟨.oth ⟨a, h⟩, rfl⟩

/-- a relation on the events of the execution, seen as a relation on raw events -/
def liftRel {n : Nat} (hb : Ev (Fin n) → Ev (Fin n) → Prop) : E → E → Prop :=
  fun x y => ∃ x' y', lift x' = x ∧ lift y' = y ∧ hb x' y'

theorem hb_of_liftRel {n : Nat} {hb : Ev (Fin n) → Ev (Fin n) → Prop} {x y : Ev (Fin n)}
    (h : liftRel hb (lift x) (lift y)) : hb x y := by
  obtain ⟨x', y', ex, ey, h⟩ := h
  rw [lift_inj ex, lift_inj ey] at h; exact h

theorem liftRel_of_mem {n : Nat} {hb : Ev (Fin n) → Ev (Fin n) → Prop} {l : List (E × E)}
    (hin : ∀ {p : E × E}, p ∈ l → InR n p.1 ∧ InR n p.2) (h : ∀ x y, (lift x, lift y) ∈ l → hb x y)
    {p : E × E} (hp : p ∈ l) : liftRel hb p.1 p.2 := by
  obtain ⟨x, hx⟩ := exists_lift (hin hp).1
  obtain ⟨y, hy⟩ := exists_lift (hin hp).2
  exact ⟨x, y, hx, hy, h x y (by rw [hx, hy]; exact hp)⟩

theorem liftRel_trans {n : Nat} {hb : Ev (Fin n) → Ev (Fin n) → Prop} (ht : ∀ x y z, hb x y → hb y z → hb x z) :
    ∀ a b c, liftRel hb a b → liftRel hb b c → liftRel hb a c := by
  rintro a b c ⟨x, y, rfl, rfl, h1⟩ ⟨y', z, ey, rfl, h2⟩
  rw [lift_inj ey] at h2
  exact ⟨x, z, rfl, rfl, ht _ _ _ h1 h2⟩

def execOf (c : Cfg) (hb : Ev (Fin c.kinds.length) → Ev (Fin c.kinds.length) → Prop) : CountExec where
  A := Fin c.kinds.length
  ops := c.ops
  ordR := fun i => nthD .relaxed c.ords i
  kind := fun a => nthD (.access 0) c.kinds a.val
  hb := hb

theorem kind_get (c : Cfg) (a : Fin c.kinds.length) : c.kinds[a.val]? = some (nthD (.access 0) c.kinds a.val) :=
  getElem?_nthD _ a.isLt

section
variable {c : Cfg} {hb : Ev (Fin c.kinds.length) → Ev (Fin c.kinds.length) → Prop}

theorem uses_of_via {a : (execOf c hb).A} {h : H} (hv : ((execOf c hb).kind a).via = some h) :
    Uses c.ops c.kinds (.oth a.val) h := ⟨_, kind_get c a, hv⟩

theorem kinds_of_kind {a : (execOf c hb).A} {k : AKind} (hk : (execOf c hb).kind a = k) : c.kinds[a.val]? = some k :=
  hk ▸ kind_get c a

theorem born_before (hA : InvA decOrd c) (hB : InvB fenceOrd (liftRel hb) c) {x : Ev (Fin c.kinds.length)} {h : H}
    (hu : Uses c.ops c.kinds (lift x) h) (hne : h ≠ 0) : ∃ i s, c.ops[i]? = some (Op.inc h s) ∧ hb (.rmw i) x := by
  obtain ⟨i, s, hi⟩ := exists_born ((hA.uses_born hu).resolve_left hne)
  exact ⟨i, s, hi, hb_of_liftRel (x := .rmw i) (hB.born hu hi)⟩

theorem protocol_of_inv (hA : InvA decOrd c) (hB : InvB fenceOrd (liftRel hb) c) :
    Protocol (execOf c hb) decOrd fenceOrd := by
  refine ⟨hA.fresh, hA.kid_ne_zero, hA.dec_once, ?_, ?_, ?_, ?_, ?_, ?_, ?_, ?_⟩
  · intro j h hj hne
    obtain ⟨i, s, hi⟩ := exists_born ((hA.dead_born (mem_deads.2 (List.mem_of_getElem? hj))).resolve_left hne)
    exact ⟨i, s, hi, hb_of_liftRel (x := .rmw i) (y := .rmw j) (hB.dead hj (Or.inr ⟨s, hi⟩))⟩
  · intro j ch s hj hne
    exact born_before hA hB (x := .rmw j) ⟨ch, hj⟩ hne
  · intro j ch s k hj hk
    exact hb_of_liftRel (x := .rmw j) (y := .rmw k) (hB.dead hk (Or.inl ⟨ch, hj⟩))
  · intro i h hi
    exact nthD_of_getElem? _ (hA.dec_ord hi)
  · intro a h hv
    exact hA.uses_born (uses_of_via hv)
  · intro a h k hv hk
    exact hb_of_liftRel (x := .oth a) (y := .rmw k) (hB.dead hk (Or.inl (uses_of_via hv)))
  · intro f k hf
    have hf' := kinds_of_kind hf
    obtain ⟨hd1, hd2⟩ := hA.destroy_data hf'
    refine ⟨hd1, hd2, ?_⟩
    cases fenceOrd with
    | none => exact hb_of_liftRel (x := .rmw k) (y := .oth f) (hB.destroy_edges hf')
    | some o =>
      obtain ⟨l, rf, hl, h1, h2⟩ := hB.destroy_edges hf'
      refine ⟨⟨l, lt_of_getElem? hl⟩, rf, nthD_of_getElem? _ hl, ?_, ?_⟩
      · exact hb_of_liftRel (x := .rmw k) (y := .oth ⟨l, lt_of_getElem? hl⟩) h1
      · exact hb_of_liftRel (x := .oth ⟨l, lt_of_getElem? hl⟩) (y := .oth f) h2
  · intro f₁ f₂ k h₁ h₂
    exact Fin.ext (hA.destroy_inj (kinds_of_kind h₁) (kinds_of_kind h₂))

theorem viaBorn_of_inv (hA : InvA decOrd c) (hB : InvB fenceOrd (liftRel hb) c) : ViaBorn (execOf c hb) := by
  intro a h hv hne
  exact born_before hA hB (x := .oth a) (uses_of_via hv) hne

def stamp (c : Cfg) (a : Fin c.kinds.length) : Nat := nthD 0 c.stamps a.val

theorem stamp_get (hA : InvA decOrd c) (a : Fin c.kinds.length) : c.stamps[a.val]? = some (stamp c a) :=
  getElem?_nthD _ (Nat.lt_of_lt_of_eq a.isLt hA.stamps_len.symm)

theorem mutExcl_of_inv (hA : InvA decOrd c) (hB : InvB fenceOrd (liftRel hb) c)
    {l w : Fin c.kinds.length} {h : H}
    (hl : ((execOf c hb).kind l).via = some h) (hw : ((execOf c hb).kind w).via = some h)
    (hno : ∀ (i : Nat) (ch : H), c.ops[i]? = some (Op.inc ch h) → i < stamp c l ∨ stamp c w ≤ i) :
    MutExcl (execOf c hb) l w h := by
  intro i ch hi
  have ht : Touch c (.rmw i) h := Or.inl ⟨ch, hi⟩
  rcases hno i ch hi with h1 | h1
  · exact Or.inl (hb_of_liftRel (x := .rmw i) (y := .oth l) ((hB.seq (stamp_get hA l) (uses_of_via hl) ht).1 h1))
  · exact Or.inr (hb_of_liftRel (x := .oth w) (y := .rmw i) ((hB.seq (stamp_get hA w) (uses_of_via hw) ht).2 h1))

end

/-! ## the theorems about runs -/

def Run.ofSteps (decOrd : MemOrd) (fenceOrd : Option MemOrd) (steps : List (Nat × Instr))
    (h : (exec decOrd fenceOrd Cfg.init steps).isSome = true) : Run decOrd fenceOrd where
  steps := steps
  final := (exec decOrd fenceOrd Cfg.init steps).get h
  ok := by simp

section
variable (r : Run decOrd fenceOrd)
  (hb : Ev (Fin r.final.kinds.length) → Ev (Fin r.final.kinds.length) → Prop)

theorem inv_of_run
    (hpo : ∀ x y, (lift x, lift y) ∈ r.final.po → hb x y)
    (hsw : ∀ x y, (lift x, lift y) ∈ r.final.sw → hb x y)
    (htrans : ∀ x y z, hb x y → hb y z → hb x z) :
    InvA decOrd r.final ∧ InvB fenceOrd (liftRel hb) r.final := by
  have hC : InvC r.final := exec_induction (fun hs h => invC_step h hs) r.steps r.ok invC_init
  exact inv_exec (liftRel_trans htrans) r.steps invA_init (invB_init _) r.ok
    fun _ hp => hp.elim (liftRel_of_mem hC.po_in hpo) (liftRel_of_mem hC.sw_in hsw)

/-- **`Protocol` is a theorem about the operational semantics**: for every run and every transitive `hb` that contains
program order and the hand-over edges, the induced execution follows the protocol. -/
theorem protocol_of_run
    (hpo : ∀ x y, (lift x, lift y) ∈ r.final.po → hb x y)
    (hsw : ∀ x y, (lift x, lift y) ∈ r.final.sw → hb x y)
    (htrans : ∀ x y z, hb x y → hb y z → hb x z) :
    Protocol (execOf r.final hb) decOrd fenceOrd :=
  have ⟨hA, hB⟩ := inv_of_run r hb hpo hsw htrans
  protocol_of_inv hA hB

theorem viaBorn_of_run
    (hpo : ∀ x y, (lift x, lift y) ∈ r.final.po → hb x y)
    (hsw : ∀ x y, (lift x, lift y) ∈ r.final.sw → hb x y)
    (htrans : ∀ x y z, hb x y → hb y z → hb x z) :
    ViaBorn (execOf r.final hb) :=
  have ⟨hA, hB⟩ := inv_of_run r hb hpo hsw htrans
  viaBorn_of_inv hA hB

/-- `MutExcl` for a load `l` and an access `w` through `h` such that the run performs no `clone h _` between them
(every clone of `h` has its place in modification order before `l` was issued or after `w` was). -/
theorem mutExcl_of_run
    (hpo : ∀ x y, (lift x, lift y) ∈ r.final.po → hb x y)
    (hsw : ∀ x y, (lift x, lift y) ∈ r.final.sw → hb x y)
    (htrans : ∀ x y z, hb x y → hb y z → hb x z)
    {l w : Fin r.final.kinds.length} {h : H}
    (hl : ((execOf r.final hb).kind l).via = some h) (hw : ((execOf r.final hb).kind w).via = some h)
    (hno : ∀ (i : Nat) (ch : H), r.final.ops[i]? = some (Op.inc ch h) → i < stamp r.final l ∨ stamp r.final w ≤ i) :
    MutExcl (execOf r.final hb) l w h :=
  have ⟨hA, hB⟩ := inv_of_run r hb hpo hsw htrans
  mutExcl_of_inv hA hB hl hw hno

end

/-! ### the individual fields, as statements about runs (for reference) -/

section
variable (r : Run decOrd fenceOrd)

/-- facts that do not mention happens-before hold outright -/
theorem run_invA : InvA decOrd r.final :=
  (inv_of_run r (fun _ _ => True) (fun _ _ _ => trivial) (fun _ _ _ => trivial) (fun _ _ _ _ _ => trivial)).1

theorem run_fresh {i j : Nat} {ch s s' : H} (hi : r.final.ops[i]? = some (Op.inc ch s))
    (hj : r.final.ops[j]? = some (Op.inc ch s')) : i = j := (run_invA r).fresh hi hj

theorem run_dec_once {i j : Nat} {h : H} (hi : r.final.ops[i]? = some (Op.dec h))
    (hj : r.final.ops[j]? = some (Op.dec h)) : i = j := (run_invA r).dec_once hi hj

theorem run_owned_live {h t : Nat} (ho : r.final.own h = some t) :
    (h = 0 ∨ h ∈ kids r.final.ops) ∧ h ∉ deads r.final.ops := (run_invA r).own_live ho
end

/-- every run's modification order is a well-formed counting history (no `Consistent` needed): in particular the value a
decrement reads is the number of live handles, and `drop` sees 1 exactly when it releases the last handle -/
theorem run_wf (r : Run decOrd fenceOrd) : WF r.final.ops := (run_invA r).wf

/-! ## bridge to the finite executions of `WM/FinExec.lean` (for examples) -/

def finOf (c : Cfg) (pairs : List (Ev (Fin c.kinds.length) × Ev (Fin c.kinds.length))) : FinExec where
  n := c.kinds.length
  ops := c.ops
  ords := c.ords
  kinds := c.kinds
  pairs := pairs

theorem finOf_toExec (c : Cfg) (pairs : List (Ev (Fin c.kinds.length) × Ev (Fin c.kinds.length))) :
    (finOf c pairs).toExec = execOf c (fun x y => (x, y) ∈ pairs) := rfl

def liftPairs {n : Nat} (l : List (Ev (Fin n) × Ev (Fin n))) : List (E × E) := l.map fun p => (lift p.1, lift p.2)

def unlift {n : Nat} : E → Option (Ev (Fin n))
  | .rmw i => some (.rmw i)
  | .oth a => if h : a < n then some (.oth ⟨a, h⟩) else none

def unliftPairs {n : Nat} (l : List (E × E)) : List (Ev (Fin n) × Ev (Fin n)) :=
  l.filterMap fun p => match unlift p.1, unlift p.2 with
    | some x, some y => some (x, y)
    | _, _ => none

/-- the smallest happens-before of a configuration with `n` events that contains the extra edges `extra` (e.g. the
synchronises-with edges): the closure of program order ∪ hand-over edges ∪ `extra`.  (Executable helper; `coversB` and
the `FinExec` checker re-validate what is needed.) -/
def hbPairs {n : Nat} (c : Cfg) (extra : List (Ev (Fin n) × Ev (Fin n))) : List (Ev (Fin n) × Ev (Fin n)) :=
  closure (unliftPairs (c.po ++ c.sw) ++ extra)

def coversB {n : Nat} (es : List (E × E)) (pairs : List (Ev (Fin n) × Ev (Fin n))) : Bool :=
  es.all fun p => decide (p ∈ liftPairs pairs)

theorem coversB_sound {n : Nat} {es : List (E × E)} {pairs : List (Ev (Fin n) × Ev (Fin n))}
    (h : coversB es pairs = true) : ∀ x y : Ev (Fin n), (lift x, lift y) ∈ es → (x, y) ∈ pairs := by
  intro x y hm
  obtain ⟨⟨x', y'⟩, hm', he⟩ := List.mem_map.1 (of_decide_eq_true (List.all_eq_true.1 h _ hm))
  simp only [Prod.mk.injEq] at he
  rw [← lift_inj he.1, ← lift_inj he.2]; exact hm'

/-- the run theorems for a finite happens-before: what the examples use.  The hypotheses are in the form the checkers
establish (`Consistent` of the `FinExec`, coverage of the recorded edges), so that applying it to a concrete run makes
the elaborator compare no evaluated term -/
theorem run_fin (r : Run decOrd fenceOrd)
    (pairs : List (Ev (Fin r.final.kinds.length) × Ev (Fin r.final.kinds.length)))
    (hc : Consistent (finOf r.final pairs).toExec)
    (hpo : coversB r.final.po pairs = true) (hsw : coversB r.final.sw pairs = true) :
    Protocol (finOf r.final pairs).toExec decOrd fenceOrd ∧ ViaBorn (finOf r.final pairs).toExec ∧
    ∀ {l w : Fin r.final.kinds.length} {h : H},
      (nthD (.access 0) r.final.kinds l.val).via = some h → (nthD (.access 0) r.final.kinds w.val).via = some h →
      (∀ (i : Nat) (ch : H), r.final.ops[i]? = some (Op.inc ch h) → i < stamp r.final l ∨ stamp r.final w ≤ i) →
      MutExcl (finOf r.final pairs).toExec l w h :=
  have ⟨hA, hB⟩ :=
    inv_of_run r (fun x y => (x, y) ∈ pairs) (coversB_sound hpo) (coversB_sound hsw) fun _ _ _ => hc.hb_trans
  ⟨protocol_of_inv hA hB, viaBorn_of_inv hA hB, fun hl hw hno => mutExcl_of_inv hA hB hl hw hno⟩

end Own
end WM


#print axioms WM.Own.protocol_of_run
#print axioms WM.Own.viaBorn_of_run
#print axioms WM.Own.mutExcl_of_run
