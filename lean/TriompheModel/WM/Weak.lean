import TriompheModel.WM.FinExec
open Facts
namespace WM
namespace Weak
/-! Necessity witness: the two-thread program of WM/Example.lean with a *relaxed* decrement. The execution is
consistent and follows the protocol, yet thread B's payload read is not ordered before destruction. -/
abbrev EA := Fin 4     -- 0 = a0, 1 = a1, 2 = l, 3 = f
def exOps : List Op := [.inc 1 0, .dec 1, .dec 0]
def exKind : EA → AKind
  | 0 => .access 0
  | 1 => .access 1
  | 2 => .fenceLoad 2 .acquire (some 2)
  | 3 => .destroy 2
def exOrd : Nat → MemOrd
  | _ => .relaxed

def r (i : Nat) : Ev EA := .rmw i
def e (a : EA) : Ev EA := .oth a
/-- happens-before, transitively closed by hand -/
def exPairs : List (Ev EA × Ev EA) :=
  [ (r 0, e 0), (r 0, r 2), (r 0, e 2), (r 0, e 3), (e 0, r 2), (e 0, e 2), (e 0, e 3),
    (r 2, e 2), (r 2, e 3), (e 2, e 3),                      -- thread A program order
    (e 1, r 1),                                              -- thread B program order
    (r 0, e 1), (r 0, r 1) ]                                 -- h1 handed to B after the clone; NO sw edge

def exX : CountExec where
  A := EA
  ops := exOps
  ordR := exOrd
  kind := exKind
  hb := fun x y => (x, y) ∈ exPairs

theorem ex_admitted : FinExec.Admitted exX .relaxed (some .acquire) := FinExec.checkAll_sound_fn (by decide +kernel)
theorem ex_consistent : Consistent exX := ex_admitted.consistent
theorem ex_protocol : Protocol exX .relaxed (some .acquire) := ex_admitted.protocol

/-- with a relaxed decrement there is a consistent protocol-following execution with a data race
between a payload read and the destruction -/
theorem release_needed : ¬ exX.hb (.oth (1 : EA)) (.oth (3 : EA)) ∧ ¬ exX.hb (.oth (3 : EA)) (.oth (1 : EA)) := by
  constructor <;> (show ¬ (_ ∈ exPairs); decide)
end Weak
end WM
