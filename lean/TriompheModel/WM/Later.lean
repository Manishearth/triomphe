import TriompheModel.WM.Unique
/-!
# M4 — the "later sharers" half of C03 / C08

`unique_verdict_exclusive` (WM/Unique.lean) orders every access through a handle that existed where the gate's load read the
count *before* the gate.  Here the other direction: every handle that comes into existence *beyond* the point the gate read
from is a descendant of the gate's own handle `h`, and — because the clone that starts such a family needs `&h` while the
gate's caller holds `&mut h` — its birth, and therefore everything ever done through it, happens-after the granted write.
The one further assumption is `MutExcl`, the borrow-checker fact the property text calls "sole owner".
-/
open Facts
namespace WM

variable {X : CountExec} {decOrd : MemOrd} {fenceOrd : Option MemOrd}

/-- `&mut` exclusivity of the gate's handle: while the `&mut` borrow the gate was called through is in use (from the gate's
load `l` to the write `w` it grants) no `clone` takes `&h`, so an increment whose source is `h` happens-before the load or
happens-after the write -/
def MutExcl (X : CountExec) (l w : X.A) (h : H) : Prop :=
  ∀ {i : Nat} {c : H}, X.ops[i]? = some (Op.inc c h) → X.hb (.rmw i) (.oth l) ∨ X.hb (.oth w) (.rmw i)

def Beyond (rf : Option Nat) (i : Nat) : Prop := ∀ j, rf = some j → j < i

theorem sole_live_at_verdict (hc : Consistent X) (hp : Protocol X decOrd fenceOrd)
    (hrw : CoRW X) (hvb : ViaBorn X)
    {l : X.A} {h : H} {o : MemOrd} {rf : Option Nat}
    (hl : X.kind l = .load h o rf) (hone : valRead X.ops rf = 1) :
    ∀ x, x ∈ (run (seenPrefix X.ops rf)).born → x ≠ h →
      ∃ m j, rf = some j ∧ m ≤ j ∧ X.ops[m]? = some (Op.dec x) := by
  intro x hxb hne
  rw [seenPrefix_eq] at hxb
  obtain ⟨m, hm, hmd⟩ := others_released hc hp hvb hl hone (not_released_before hp hrw hl) hxb hne
  obtain ⟨j, hj, hmj⟩ := lt_prefixLen hm
  exact ⟨m, j, hj, hmj, hmd⟩

theorem beyond_iff {rf : Option Nat} {i : Nat} : Beyond rf i ↔ prefixLen rf ≤ i := by
  cases rf with
  | none => exact ⟨fun _ => Nat.zero_le _, fun _ j hj => by cases hj⟩
  | some j => exact ⟨fun h => h j rfl, fun h j' hj' => by cases hj'; exact h⟩

/-- **C03 / C08, schedule part, later sharers.**  After a gate's load through `h` returned 1, every
handle created beyond the point that load read from is born — its increment is ordered —
*after the granted write* `w`. -/
theorem later_births_after_write (hc : Consistent X) (hp : Protocol X decOrd fenceOrd)
    (hrw : CoRW X) (hvb : ViaBorn X)
    {l w : X.A} {h : H} {o : MemOrd} {rf : Option Nat}
    (hl : X.kind l = .load h o rf) (hone : valRead X.ops rf = 1) (hex : MutExcl X l w h) :
    ∀ (i : Nat) (c s : H), X.ops[i]? = some (Op.inc c s) → Beyond rf i → X.hb (.oth w) (.rmw i) := by
  have hli : (X.kind l).loadInfo = some (o, rf) := congrArg AKind.loadInfo hl
  intro i
  induction i using Nat.strongRecOn with
  | _ i ih =>
    intro c s hi hbey
    rw [beyond_iff] at hbey
    by_cases hsh : s = h
    · subst hsh
      -- a clone of `h` before the load would be visible to it: the load cannot have read from before it
      refine (hex hi).resolve_left fun hbefore => ?_
      obtain ⟨j, rfl, hij⟩ := hc.coWR hli hbefore
      exact Nat.not_succ_le_self j (Nat.le_trans hbey hij)
    · -- the source is itself a later handle: born in the prefix it would have been released there, before this clone
      have hs_notin : s ∉ (run (X.ops.take (prefixLen rf))).born := fun hsb => by
        obtain ⟨m, hm, hmd⟩ := others_released hc hp hvb hl hone (not_released_before hp hrw hl) hsb hsh
        have := hc.coWW (hp.src_alive hi hmd)
        omega
      rw [mem_born_take] at hs_notin
      obtain ⟨i', s', hi', hhb⟩ := hp.src_born hi (fun h0 => hs_notin (Or.inl h0))
      have hbey' : prefixLen rf ≤ i' := Nat.le_of_not_lt fun hlt => hs_notin (Or.inr ⟨i', s', hlt, hi'⟩)
      exact hc.hb_trans (ih i' (hc.coWW hhb) s s' hi' (beyond_iff.2 hbey')) hhb

/-- **Every access through a later sharer happens-after the granted write**: a thread that
obtains a handle after the mutation sees the mutated value, never a torn one, and the mutation never
races with it. -/
theorem later_sharers_after_write (hc : Consistent X) (hp : Protocol X decOrd fenceOrd)
    (hrw : CoRW X) (hvb : ViaBorn X)
    {l w : X.A} {h : H} {o : MemOrd} {rf : Option Nat}
    (hl : X.kind l = .load h o rf) (hone : valRead X.ops rf = 1) (hex : MutExcl X l w h) :
    ∀ (a : X.A) (h' : H), (X.kind a).via = some h' → h' ≠ 0 →
      (∀ i s, X.ops[i]? = some (Op.inc h' s) → Beyond rf i) → X.hb (.oth w) (.oth a) := by
  intro a h' hva h0 hlate
  obtain ⟨i, s, hi, hhb⟩ := hvb hva h0
  exact hc.hb_trans (later_births_after_write hc hp hrw hvb hl hone hex i h' s hi (hlate i s hi)) hhb

/-- Together with `unique_verdict_exclusive`: with respect to a successful gate, every handle other
than the gate's own is either a *former* sharer (all its accesses before the gate's load) or a
*later* one (all its accesses after the granted write) — no access through another handle is
concurrent with the write. -/
theorem no_access_concurrent_with_granted_write (hc : Consistent X) (hp : Protocol X decOrd fenceOrd)
    (hrw : CoRW X) (hvb : ViaBorn X) (hrel : decOrd.isRel = true)
    {l w : X.A} {h : H} {o : MemOrd} {rf : Option Nat}
    (hl : X.kind l = .load h o rf) (hacq : o.isAcq = true) (hone : valRead X.ops rf = 1)
    (hlw : X.hb (.oth l) (.oth w)) (hex : MutExcl X l w h) :
    ∀ (a : X.A) (h' : H), (X.kind a).via = some h' → h' ≠ h →
      X.hb (.oth a) (.oth w) ∨ X.hb (.oth w) (.oth a) := by
  intro a h' hva hne
  by_cases hformer : h' ∈ (run (X.ops.take (prefixLen rf))).born
  · exact Or.inl (hc.hb_trans
      (unique_verdict_exclusive hc hp hrw hvb hrel hl hacq hone a h' hva hne (born_prefix_iff.1 hformer)) hlw)
  · rw [mem_born_take] at hformer
    exact Or.inr (later_sharers_after_write hc hp hrw hvb hl hone hex a h' hva (fun h0 => hformer (Or.inl h0))
      fun i s hi => beyond_iff.2 (Nat.le_of_not_lt fun hlt => hformer (Or.inr ⟨i, s, hlt, hi⟩)))

end WM
