import TriompheModel.WM.Live
import TriompheModel.Facts
/-!
# The count word under weak memory: destruction happens-after everything else

Coherence turns happens-before between RMWs into positions in modification order, so under the ownership protocol every
prefix of the modification order is a well-formed counting history (`wf_take`) and the sequential facts of WM/Counting.lean,
WM/Live.lean apply to it: the decrement that reads 1 is the last RMW, every other handle was released before it by a Release
decrement, and the Acquire after it puts all of that before the destruction (`destroy_after_all`).
-/
open Facts
namespace WM

/-- Events touching one allocation: the RMWs on the count word (identified with their position in
modification order) and everything else. -/
inductive Ev (A : Type) where
  | rmw (i : Nat)
  | oth (a : A)

/-- What a non-RMW event is. `rf = none`: the load reads the initialising store. -/
inductive AKind where
  | load (via : H) (ord : MemOrd) (rf : Option Nat)      -- count / strong_count / is_unique through a handle
  | access (via : H)                                     -- payload access through a handle; reads and writes are not distinguished
  | fenceLoad (after : Nat) (ord : MemOrd) (rf : Option Nat) -- the load in drop_inner, after RMW #after
  | destroy (after : Nat)                                -- drop_slow: destructor + dealloc, after RMW #after

def AKind.via : AKind → Option H
  | .load h _ _ => some h
  | .access h => some h
  | _ => none

def AKind.loadInfo : AKind → Option (MemOrd × Option Nat)
  | .load _ o rf => some (o, rf)
  | .fenceLoad _ o rf => some (o, rf)
  | _ => none

structure CountExec where
  A : Type
  ops : List Op                 -- the RMWs on the count in modification order
  ordR : Nat → MemOrd           -- memory ordering of the i-th RMW
  kind : A → AKind
  hb : Ev A → Ev A → Prop

/-- The fragment of RC11 / C++20 consistency the argument uses.  Nothing here bounds `rf`: a load may name a position beyond
`ops` (only `ConsistentPrim.rf_in_range`, WM/RelSeq.lean, excludes that), so the theorems speak of more executions than exist. -/
structure Consistent (X : CountExec) : Prop where
  hb_trans : ∀ {a b c}, X.hb a b → X.hb b c → X.hb a c
  hb_irrefl : ∀ a, ¬ X.hb a a
  /-- write-write coherence -/
  coWW : ∀ {i j : Nat}, X.hb (.rmw i) (.rmw j) → i < j
  /-- write-read coherence: a load cannot read a write older than one that happens-before it -/
  coWR : ∀ {i : Nat} {a : X.A} {o : MemOrd} {rf : Option Nat}, (X.kind a).loadInfo = some (o, rf) → X.hb (.rmw i) (.oth a) →
      ∃ j, rf = some j ∧ i ≤ j
  /-- release sequence of RMW `i` contains every later RMW (all later writes are RMWs, each reading
  its mo-predecessor); an acquire load reading from it synchronises. -/
  sw_load : ∀ {i j : Nat} {a : X.A} {o : MemOrd}, (X.ordR i).isRel = true → (X.kind a).loadInfo = some (o, some j) →
      o.isAcq = true → i ≤ j → X.hb (.rmw i) (.oth a)
  /-- same, the reader being an acquire RMW (it reads its mo-predecessor) -/
  sw_rmw : ∀ {i j : Nat}, (X.ordR i).isRel = true → (X.ordR j).isAcq = true → i < j → j < X.ops.length →
      X.hb (.rmw i) (.rmw j)

/-- What the ownership discipline of safe Rust and the shape of `Clone`/`drop_inner` provide. -/
structure Protocol (X : CountExec) (decOrd : MemOrd) (fenceOrd : Option MemOrd) : Prop where
  fresh : ∀ {i j : Nat} {c s s' : H}, X.ops[i]? = some (Op.inc c s) → X.ops[j]? = some (Op.inc c s') → i = j
  kid_ne_zero : ∀ {i : Nat} {c s : H}, X.ops[i]? = some (Op.inc c s) → c ≠ 0
  dec_once : ∀ {i j : Nat} {h : H}, X.ops[i]? = some (Op.dec h) → X.ops[j]? = some (Op.dec h) → i = j
  birth_before_death : ∀ {j : Nat} {h : H}, X.ops[j]? = some (Op.dec h) → h ≠ 0 →
      ∃ i s, X.ops[i]? = some (Op.inc h s) ∧ X.hb (.rmw i) (.rmw j)
  src_born : ∀ {j : Nat} {c s : H}, X.ops[j]? = some (Op.inc c s) → s ≠ 0 →
      ∃ i s', X.ops[i]? = some (Op.inc s s') ∧ X.hb (.rmw i) (.rmw j)
  src_alive : ∀ {j : Nat} {c s : H} {k : Nat}, X.ops[j]? = some (Op.inc c s) → X.ops[k]? = some (Op.dec s) →
      X.hb (.rmw j) (.rmw k)
  dec_ord : ∀ {i : Nat} {h : H}, X.ops[i]? = some (Op.dec h) → X.ordR i = decOrd
  via_real : ∀ {a : X.A} {h : H}, (X.kind a).via = some h → h = 0 ∨ h ∈ kids X.ops
  via_alive : ∀ {a : X.A} {h : H} {k : Nat}, (X.kind a).via = some h → X.ops[k]? = some (Op.dec h) →
      X.hb (.oth a) (.rmw k)
  destroy_shape : ∀ {f : X.A} {k : Nat}, X.kind f = .destroy k →
      (∃ h, X.ops[k]? = some (Op.dec h)) ∧ (run (X.ops.take k)).val = 1 ∧
      (match fenceOrd with
        | some o => ∃ l rf, X.kind l = .fenceLoad k o rf ∧ X.hb (.rmw k) (.oth l) ∧ X.hb (.oth l) (.oth f)
        | none => X.hb (.rmw k) (.oth f))
  destroy_inj : ∀ {f₁ f₂ : X.A} {k : Nat}, X.kind f₁ = .destroy k → X.kind f₂ = .destroy k → f₁ = f₂

variable {X : CountExec} {decOrd : MemOrd} {fenceOrd : Option MemOrd}

theorem take_succ_of_get {l : List Op} {n : Nat} {o : Op} (h : l[n]? = some o) :
    l.take (n+1) = l.take n ++ [o] := by
  rw [List.take_add_one, h]; rfl

theorem mem_take_iff {l : List Op} {n : Nat} {o : Op} : o ∈ l.take n ↔ ∃ i, i < n ∧ l[i]? = some o := by
  simp only [List.mem_iff_getElem?, List.getElem?_take, Option.ite_none_right_eq_some]

theorem mem_born_take {l : List Op} {n : Nat} {h : H} :
    h ∈ (run (l.take n)).born ↔ h = 0 ∨ ∃ i s, i < n ∧ l[i]? = some (Op.inc h s) := by
  rw [born_run, mem_kids]
  simp only [mem_take_iff]
  exact or_congr Iff.rfl exists_comm

theorem mem_deads_take {l : List Op} {n : Nat} {h : H} :
    h ∈ deads (l.take n) ↔ ∃ k, k < n ∧ l[k]? = some (Op.dec h) :=
  mem_deads.trans mem_take_iff

theorem mem_live_take {l : List Op} {n : Nat} (hw : WF (l.take n)) {h : H} :
    h ∈ (run (l.take n)).live ↔
      (h = 0 ∨ ∃ i s, i < n ∧ l[i]? = some (Op.inc h s)) ∧ ∀ k, k < n → l[k]? ≠ some (Op.dec h) := by
  simp only [(live_iff hw).1, mem_born_take, mem_deads_take, not_exists, not_and, ne_eq]

theorem wf_take (hc : Consistent X) (hp : Protocol X decOrd fenceOrd) :
    ∀ n, WF (X.ops.take n) := by
  intro n
  induction n with
  | zero => exact WF.nil
  | succ n ih =>
    rw [List.take_add_one]
    cases hn : X.ops[n]? with
    | none => rw [Option.toList_none, List.append_nil]; exact ih
    | some o =>
      refine WF.snoc ih ?_
      -- happens-before between RMWs gives the positions in modification order
      have live : ∀ {h : H}, (h ≠ 0 → ∃ i s, X.ops[i]? = some (Op.inc h s) ∧ X.hb (.rmw i) (.rmw n)) →
          (∀ k, k < n → X.ops[k]? ≠ some (Op.dec h)) → h ∈ (run (X.ops.take n)).live := by
        intro h hborn hnd
        refine (mem_live_take ih).2 ⟨Decidable.or_iff_not_imp_left.2 fun h0 => ?_, hnd⟩
        obtain ⟨i, s, hi, hhb⟩ := hborn h0
        exact ⟨i, s, hc.coWW hhb, hi⟩
      cases o with
      | inc c s =>
        refine ⟨live (hp.src_born hn) fun k hk hkd => Nat.lt_asymm hk (hc.coWW (hp.src_alive hn hkd)), ?_⟩
        rw [mem_born_take]
        rintro (h0 | ⟨i, s', hi, hio⟩)
        · exact hp.kid_ne_zero hn h0
        · exact Nat.ne_of_lt hi (hp.fresh hio hn)
      | dec h =>
        exact live (hp.birth_before_death hn) fun k hk hkd => Nat.ne_of_lt hk (hp.dec_once hkd hn)

theorem wf_ops (hc : Consistent X) (hp : Protocol X decOrd fenceOrd) : WF X.ops := by
  have := wf_take hc hp X.ops.length
  rwa [List.take_length] at this

theorem enabled_at (hc : Consistent X) (hp : Protocol X decOrd fenceOrd) {n : Nat} {o : Op}
    (hn : X.ops[n]? = some o) : Enabled (run (X.ops.take n)) o := by
  have hw := wf_take hc hp (n+1)
  rw [take_succ_of_get hn] at hw
  exact (wf_snoc_inv hw).2

theorem val_after_destroy (hp : Protocol X decOrd fenceOrd) {f : X.A} {k : Nat}
    (hf : X.kind f = .destroy k) : (run (X.ops.take (k+1))).val = 0 := by
  obtain ⟨⟨h, hk⟩, hval, _⟩ := hp.destroy_shape hf
  rw [take_succ_of_get hk, run_snoc]
  simp [St.step, stepVal, hval]

theorem destroyer_is_last (hc : Consistent X) (hp : Protocol X decOrd fenceOrd)
    {f : X.A} {k : Nat} (hf : X.kind f = .destroy k) : k + 1 = X.ops.length := by
  obtain ⟨⟨h, hk⟩, _⟩ := hp.destroy_shape hf
  refine Nat.le_antisymm (Own.lt_of_getElem? hk) (Nat.le_of_not_lt fun hlt => ?_)
  -- the prefix of length k+2 is well formed, but its last op runs from value 0
  have hw := wf_take hc hp (k+2)
  rw [take_succ_of_get (List.getElem?_eq_getElem hlt)] at hw
  exact zero_is_final hw (val_after_destroy hp hf)

theorem live_nil_of_destroy (hc : Consistent X) (hp : Protocol X decOrd fenceOrd)
    {f : X.A} {k : Nat} (hf : X.kind f = .destroy k) : (run X.ops).live = [] := by
  apply live_nil_of_val (inv_run (wf_ops hc hp))
  rw [← List.take_length (l := X.ops), ← destroyer_is_last hc hp hf]
  exact val_after_destroy hp hf

/-- `t` acquires the first `n` RMWs: every decrement among them happens-before `t` -/
def Acquires (X : CountExec) (n : Nat) (t : Ev X.A) : Prop :=
  ∀ {m : Nat} {h : H}, m < n → X.ops[m]? = some (Op.dec h) → X.hb (.rmw m) t

/-- **The one happens-before argument of M4.**  If `t` acquires a prefix of the modification order in which `h` was born and
is no longer live, then `h` was released inside the prefix, so whatever happens-before every release of `h` happens-before
`t`.  The destruction (whole order, nobody live), a gate's load that returned 1 and a consuming load (the prefix read from,
only the gate's handle live) are the instances. -/
theorem before_release_before (hc : Consistent X) (hp : Protocol X decOrd fenceOrd) {n : Nat} {t : Ev X.A}
    (ht : Acquires X n t) {e : Ev X.A} {h : H} (hb : h ∈ (run (X.ops.take n)).born)
    (hnl : h ∉ (run (X.ops.take n)).live)
    (hbe : ∀ m : Nat, X.ops[m]? = some (Op.dec h) → X.hb e (.rmw m)) : X.hb e t := by
  obtain ⟨m, hm, hmd⟩ := mem_take_iff.1 (released_of_not_live (wf_take hc hp n) hb hnl)
  exact hc.hb_trans (hbe m hmd) (ht hm hmd)

/-- length of the mo-prefix a load reads from -/
def prefixLen : Option Nat → Nat
  | none => 0
  | some j => j + 1

theorem lt_prefixLen {rf : Option Nat} {m : Nat} (h : m < prefixLen rf) : ∃ j, rf = some j ∧ m ≤ j := by
  cases rf with
  | none => exact absurd h (Nat.not_lt_zero m)
  | some j => exact ⟨j, rfl, Nat.le_of_lt_succ h⟩

theorem acquires_of_load (hc : Consistent X) (hp : Protocol X decOrd fenceOrd) (hrel : decOrd.isRel = true)
    {l : X.A} {o : MemOrd} {rf : Option Nat} (hli : (X.kind l).loadInfo = some (o, rf)) (hacq : o.isAcq = true) :
    Acquires X (prefixLen rf) (.oth l) := by
  intro m h hm hmd
  obtain ⟨j, rfl, hmj⟩ := lt_prefixLen hm
  exact hc.sw_load (by rw [hp.dec_ord hmd]; exact hrel) hli hacq hmj

section
variable (hc : Consistent X) (hp : Protocol X decOrd fenceOrd) (hrel : decOrd.isRel = true)
  (hacq : decOrd.isAcq = true ∨ ∃ o, fenceOrd = some o ∧ o.isAcq = true)
  {f : X.A} {k : Nat} (hf : X.kind f = .destroy k)
include hc hp hrel hacq hf

theorem destroy_acquires : Acquires X X.ops.length (.oth f) := by
  obtain ⟨⟨h', hk⟩, _, hshape⟩ := hp.destroy_shape hf
  have hkf : X.hb (.rmw k) (.oth f) := by
    cases fenceOrd with
    | none => exact hshape
    | some o => obtain ⟨l, rf, _, hkl, hlf⟩ := hshape; exact hc.hb_trans hkl hlf
  rw [← destroyer_is_last hc hp hf]
  intro m h hm hmd
  rcases Nat.lt_succ_iff_lt_or_eq.1 hm with hlt | rfl
  · -- through the destroying decrement, itself an Acquire; or through the Acquire load after it, which reads that decrement
    -- or a later RMW (`coWR`)
    rcases hacq with ha | ⟨o, rfl, hoa⟩
    · have hrelm : (X.ordR m).isRel = true := by rw [hp.dec_ord hmd]; exact hrel
      have : (X.ordR k).isAcq = true := by rw [hp.dec_ord hk]; exact ha
      exact hc.hb_trans (hc.sw_rmw hrelm this hlt (Own.lt_of_getElem? hk)) hkf
    · obtain ⟨l, rf, hl, hkl, hlf⟩ := hshape
      have hli : (X.kind l).loadInfo = some (o, rf) := congrArg AKind.loadInfo hl
      obtain ⟨j, rfl, hkj⟩ := hc.coWR hli hkl
      exact hc.hb_trans (acquires_of_load hc hp hrel hli hoa (Nat.lt_succ_of_le (Nat.le_trans (Nat.le_of_lt hlt) hkj)) hmd) hlf
  · exact hkf

/-- **C02, general form.**  An event that happens-before the release of some handle that ever existed happens-before the
destruction. -/
theorem before_release_before_destroy {e : Ev X.A} {h : H} (hreal : h = 0 ∨ h ∈ kids X.ops)
    (hbe : ∀ m : Nat, X.ops[m]? = some (Op.dec h) → X.hb e (.rmw m)) : X.hb e (.oth f) := by
  refine before_release_before hc hp (destroy_acquires hc hp hrel hacq hf) ?_ ?_ hbe
  · rw [List.take_length]; exact (born_run _ _).2 hreal
  · rw [List.take_length, live_nil_of_destroy hc hp hf]; exact List.not_mem_nil

theorem rmw_before_destroy {i : Nat} (hi : i < X.ops.length) : X.hb (.rmw i) (.oth f) := by
  obtain ⟨o, hget⟩ : ∃ o, X.ops[i]? = some o := ⟨_, List.getElem?_eq_getElem hi⟩
  cases o with
  | dec h => exact destroy_acquires hc hp hrel hacq hf hi hget
  | inc c s =>
    refine before_release_before_destroy hc hp hrel hacq hf (Decidable.or_iff_not_imp_left.2 fun hs => ?_)
      (fun m hm => hp.src_alive hget hm)
    obtain ⟨j, s', hj, _⟩ := hp.src_born hget hs
    exact mem_kids.2 ⟨s', List.mem_of_getElem? hj⟩
end

/-- **C02, core statement.** For every consistent execution following the protocol, if the
decrement is a release and an acquire (on the decrement or the following load) precedes
destruction, then the destroying decrement is the last RMW on the count, and every payload access,
every count access through a handle, and every other RMW happens-before the destruction. -/
theorem destroy_after_all (hc : Consistent X) (hp : Protocol X decOrd fenceOrd)
    (hrel : decOrd.isRel = true)
    (hacq : decOrd.isAcq = true ∨ ∃ o, fenceOrd = some o ∧ o.isAcq = true)
    {f : X.A} {k : Nat} (hf : X.kind f = .destroy k) :
    k + 1 = X.ops.length ∧
    (∀ a h, (X.kind a).via = some h → X.hb (.oth a) (.oth f)) ∧
    (∀ i, i < X.ops.length → i ≠ k → X.hb (.rmw i) (.oth f)) :=
  ⟨destroyer_is_last hc hp hf,
   fun _ _ hv => before_release_before_destroy hc hp hrel hacq hf (hp.via_real hv) (fun _ hm => hp.via_alive hv hm),
   fun _ hi _ => rmw_before_destroy hc hp hrel hacq hf hi⟩

/-- **C02: exactly one destroyer.** -/
theorem destroy_unique (hc : Consistent X) (hp : Protocol X decOrd fenceOrd)
    {f₁ f₂ : X.A} {k₁ k₂ : Nat} (h₁ : X.kind f₁ = .destroy k₁) (h₂ : X.kind f₂ = .destroy k₂) :
    f₁ = f₂ := by
  obtain rfl : k₁ = k₂ := Nat.succ.inj ((destroyer_is_last hc hp h₁).trans (destroyer_is_last hc hp h₂).symm)
  exact hp.destroy_inj h₁ h₂

end WM
