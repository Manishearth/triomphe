import TriompheModel.WM.Ownership
/-!
# Runs of the ownership semantics, and `Protocol` for them *by the theorem*

`ExTwo`: two threads.  Thread 0 clones handle 0 into handle 1, hands handle 1 to thread 1, and reads the payload;
thread 1 reads the payload and drops handle 1 (the count goes 2 → 1); thread 0 drops handle 0 (1 → 0), performs the
Acquire fence load and destroys the allocation.

The happens-before relation is the closure of what the run recorded (program order, the hand-over edge) and the one
synchronises-with edge `Consistent` demands (thread 1's Release decrement → the Acquire fence load).
`Protocol` and `ViaBorn` come from `protocol_of_run` / `viaBorn_of_run`; only `Consistent` (an axiom of the memory model,
not of the program) is checked by the Boolean checker of `WM/FinExec.lean`.

`ExMut`: a `get_mut`-shaped run, with `MutExcl` from `mutExcl_of_run`, feeding `later_sharers_after_write`.
-/
namespace WM
namespace Own

/-! ## the semantics refuses programs that violate ownership -/

/-- using a handle one does not own -/
example : exec .release (some .acquire) Cfg.init [(1, .access 0)] = none := by decide +kernel
/-- using a handle after dropping it -/
example : exec .release (some .acquire) Cfg.init [(0, .drop 0 none), (0, .access 0)] = none := by decide +kernel
/-- using a handle after sending it away -/
example : exec .release (some .acquire) Cfg.init [(0, .clone 0 1), (0, .send 1 1), (0, .access 1)] = none := by
  decide +kernel
/-- re-using a handle name -/
example : exec .release (some .acquire) Cfg.init [(0, .clone 0 1), (0, .clone 0 1)] = none := by decide +kernel

namespace ExTwo

def steps : List (Nat × Instr) :=
  [ (0, .clone 0 1),        -- RMW 0 = inc 1 0
    (0, .send 1 1),         -- handle 1 goes to thread 1
    (0, .access 0),         -- event 0
    (1, .access 1),         -- event 1
    (1, .drop 1 none),      -- RMW 1 = dec 1, read 2: no destruction
    (0, .drop 0 (some 2)) ] -- RMW 2 = dec 0, read 1: event 2 = fence load (reads RMW 2), event 3 = destroy

def exRun : Run .release (some .acquire) := Run.ofSteps _ _ steps (by decide +kernel)

example : exRun.final.ops = [Op.inc 1 0, Op.dec 1, Op.dec 0] := by decide +kernel
example : exRun.final.ords = [.relaxed, .release, .release] := by decide +kernel
example : exRun.final.kinds = [.access 0, .access 1, .fenceLoad 2 .acquire (some 2), .destroy 2] := by decide +kernel
example : exRun.final.sw = [(.rmw 0, .oth 1)] := by decide +kernel

abbrev EA := Fin 4
/-- program order ∪ hand-over edges (both computed from the run) ∪ the synchronises-with edge, closed -/
def exPairs : List (Ev EA × Ev EA) := hbPairs exRun.final [(.rmw 1, .oth 2)]
def exF : FinExec := finOf exRun.final exPairs
abbrev exX : CountExec := exF.toExec

example : exX = execOf exRun.final (fun x y => (x, y) ∈ exPairs) := finOf_toExec _ _

/-- what is established by evaluation, in one kernel evaluation (`exPairs`, a `closure`, is computed once): the
memory-model side by the checker, and that `exPairs` contains the recorded edges -/
theorem ex_checked : Consistent exX ∧ coversB exRun.final.po exPairs = true ∧ coversB exRun.final.sw exPairs = true ∧
    exF.checkProtocol .release (some .acquire) = true := by
  have h : forcePairs exPairs (fun ps => (finOf exRun.final ps).checkConsistent && coversB exRun.final.po ps &&
      coversB exRun.final.sw ps && (finOf exRun.final ps).checkProtocol .release (some .acquire)) = true := by
    decide +kernel
  simp only [forcePairs_eq, Bool.and_eq_true] at h
  exact ⟨FinExec.checkConsistent_sound h.1.1.1, h.1.1.2, h.1.2, h.2⟩

theorem ex_consistent : Consistent exX := ex_checked.1
theorem ex_po : coversB exRun.final.po exPairs = true := ex_checked.2.1
theorem ex_sw : coversB exRun.final.sw exPairs = true := ex_checked.2.2.1

/-- the program side: **by the theorem**, not by the checker -/
theorem ex_protocol : Protocol exX .release (some .acquire) := (run_fin exRun exPairs ex_consistent ex_po ex_sw).1

theorem ex_viaborn : ViaBorn exX := (run_fin exRun exPairs ex_consistent ex_po ex_sw).2.1

/-- (the checker agrees) -/
example : exF.checkProtocol .release (some .acquire) = true := ex_checked.2.2.2

/-- `destroy_after_all` for the run: the destroying decrement is the last RMW, both payload reads and both other RMWs
happen-before the destruction -/
theorem ex_destroy :
    2 + 1 = exX.ops.length ∧
    (∀ a h, (exX.kind a).via = some h → exX.hb (.oth a) (.oth (3 : EA))) ∧
    (∀ i, i < exX.ops.length → i ≠ 2 → exX.hb (.rmw i) (.oth (3 : EA))) :=
  destroy_after_all ex_consistent ex_protocol rfl (Or.inr ⟨.acquire, rfl, rfl⟩) (f := (3 : EA)) (k := 2) rfl

/-- in particular thread 1's read of the payload happens-before the destruction by thread 0 -/
example : exX.hb (.oth (1 : EA)) (.oth (3 : EA)) := ex_destroy.2.1 (1 : EA) 1 rfl

end ExTwo

/-! ## a `get_mut`-shaped run -/
namespace ExMut

/-- thread 0: clone 0→1, give 1 to thread 1; thread 1: read, drop (Release); thread 0: Acquire load of the count
through handle 0 reading that decrement (value 1), write the payload, then clone 0→2 and give 2 to thread 2, which
reads. -/
def steps : List (Nat × Instr) :=
  [ (0, .clone 0 1), (0, .send 1 1),
    (1, .access 1),                    -- event 0
    (1, .drop 1 none),                 -- RMW 1
    (0, .load 0 .acquire (some 1)),    -- event 1 = l
    (0, .access 0),                    -- event 2 = w
    (0, .clone 0 2), (0, .send 2 2),   -- RMW 2
    (2, .access 2) ]                   -- event 3

def exRun : Run .release (some .acquire) := Run.ofSteps _ _ steps (by decide +kernel)

abbrev EA := Fin 4
def exPairs : List (Ev EA × Ev EA) := hbPairs exRun.final [(.rmw 1, .oth 1)]
def exF : FinExec := finOf exRun.final exPairs
abbrev exX : CountExec := exF.toExec

theorem ex_checked : Consistent exX ∧ coversB exRun.final.po exPairs = true ∧ coversB exRun.final.sw exPairs = true ∧
    CoRW exX := by
  have h : forcePairs exPairs (fun ps => (finOf exRun.final ps).checkConsistent && coversB exRun.final.po ps &&
      coversB exRun.final.sw ps && (finOf exRun.final ps).checkCoRW) = true := by decide +kernel
  simp only [forcePairs_eq, Bool.and_eq_true] at h
  exact ⟨FinExec.checkConsistent_sound h.1.1.1, h.1.1.2, h.1.2, FinExec.checkCoRW_sound h.2⟩

theorem ex_consistent : Consistent exX := ex_checked.1
theorem ex_po : coversB exRun.final.po exPairs = true := ex_checked.2.1
theorem ex_sw : coversB exRun.final.sw exPairs = true := ex_checked.2.2.1

theorem ex_protocol : Protocol exX .release (some .acquire) := (run_fin exRun exPairs ex_consistent ex_po ex_sw).1
theorem ex_viaborn : ViaBorn exX := (run_fin exRun exPairs ex_consistent ex_po ex_sw).2.1

/-- the two clones of handle 0 sit at positions 0 and 2 of the modification order; the load was issued after 2 RMWs,
the write after 2 RMWs: no clone of handle 0 in between -/
theorem ex_mutexcl : MutExcl exX (1 : EA) (2 : EA) 0 :=
  (run_fin exRun exPairs ex_consistent ex_po ex_sw).2.2 (l := (1 : EA)) (w := (2 : EA))
    (by decide +kernel) (by decide +kernel) (by
      intro i ch _
      have hs1 : stamp exRun.final (1 : EA) = 2 := by decide +kernel
      have hs2 : stamp exRun.final (2 : EA) = 2 := by decide +kernel
      rw [hs1, hs2]
      exact Nat.lt_or_ge i 2)

theorem ex_corw : CoRW exX := ex_checked.2.2.2

/-- thread 2's read through the later handle 2 happens-after the granted write -/
theorem ex_w_before_a3 : exX.hb (.oth (2 : EA)) (.oth (3 : EA)) :=
  later_sharers_after_write ex_consistent ex_protocol ex_corw ex_viaborn
    (l := (1 : EA)) (w := (2 : EA)) (h := 0) (o := .acquire) (rf := some 1) rfl (by decide +kernel) ex_mutexcl
    (3 : EA) 2 rfl (by decide) (FinExec.checkLate_sound (F := exF) (by decide +kernel))

end ExMut

end Own
end WM

#print axioms WM.Own.ExTwo.ex_protocol
#print axioms WM.Own.ExTwo.ex_destroy
#print axioms WM.Own.ExMut.ex_w_before_a3
