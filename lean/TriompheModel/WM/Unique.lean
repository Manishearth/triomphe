import TriompheModel.WM.Graph
/-!
# The uniqueness gate: a load of the count that returns 1

At a load through `h` that returned 1, `h` is the only live handle of the prefix of the modification order the load read from
(`live_at_verdict`): every other handle born there was released inside it, by a Release decrement an Acquire load synchronises
with, so whatever was done through it happens-before the load (`unique_verdict_exclusive`).
-/
open Facts
namespace WM

/-- value returned by a load of the count; `none`: it reads the initialising store, `AtomicUsize::new(1)` -/
def valRead (ops : List Op) : Option Nat → Int
  | none => 1
  | some j => (run (ops.take (j+1))).val

/-- read-write coherence: a load that happens-before a write reads from an earlier write -/
def CoRW (X : CountExec) : Prop :=
  ∀ {m : Nat} {a : X.A} {o : MemOrd} {rf : Option Nat},
    (X.kind a).loadInfo = some (o, rf) → X.hb (.oth a) (.rmw m) → ∀ j, rf = some j → j < m

/-- accesses through a handle come after its birth -/
def ViaBorn (X : CountExec) : Prop :=
  ∀ {a : X.A} {h : H}, (X.kind a).via = some h → h ≠ 0 →
    ∃ i s, X.ops[i]? = some (Op.inc h s) ∧ X.hb (.rmw i) (.oth a)

variable {X : CountExec} {decOrd : MemOrd} {fenceOrd : Option MemOrd}

def seenPrefix (ops : List Op) : Option Nat → List Op
  | none => []
  | some j => ops.take (j+1)

theorem seenPrefix_eq (ops : List Op) (rf : Option Nat) : seenPrefix ops rf = ops.take (prefixLen rf) := by
  cases rf <;> rfl

theorem valRead_eq (ops : List Op) (rf : Option Nat) : valRead ops rf = (run (ops.take (prefixLen rf))).val := by
  cases rf <;> rfl

/-- the side condition of `unique_verdict_exclusive`, in the form the lemmas use: born in the prefix the load read from -/
theorem born_prefix_iff {ops : List Op} {rf : Option Nat} {h' : H} :
    h' ∈ (run (ops.take (prefixLen rf))).born ↔ h' = 0 ∨ ∃ j, rf = some j ∧ h' ∈ kids (ops.take (j+1)) := by
  rw [born_run]
  cases rf with
  | none => simp [prefixLen, kids]
  | some j => simp [prefixLen]

theorem not_released_before (hp : Protocol X decOrd fenceOrd) (hrw : CoRW X)
    {l : X.A} {h : H} {o : MemOrd} {rf : Option Nat} (hl : X.kind l = .load h o rf) :
    ∀ m, m < prefixLen rf → X.ops[m]? ≠ some (Op.dec h) := by
  intro m hm hmd
  obtain ⟨j, hj, hmj⟩ := lt_prefixLen hm
  exact Nat.lt_irrefl j (Nat.lt_of_lt_of_le
    (hrw (congrArg AKind.loadInfo hl) (hp.via_alive (congrArg AKind.via hl) hmd) j hj) hmj)

theorem reader_live (hc : Consistent X) (hp : Protocol X decOrd fenceOrd) (hvb : ViaBorn X)
    {l : X.A} {h : H} {o : MemOrd} {rf : Option Nat} (hl : X.kind l = .load h o rf)
    (hnd : ∀ m, m < prefixLen rf → X.ops[m]? ≠ some (Op.dec h)) :
    h ∈ (run (X.ops.take (prefixLen rf))).live := by
  refine (mem_live_take (wf_take hc hp _)).2 ⟨Decidable.or_iff_not_imp_left.2 fun h0 => ?_, hnd⟩
  obtain ⟨i, s, hi, hhb⟩ := hvb (congrArg AKind.via hl) h0
  obtain ⟨j, rfl, hij⟩ := hc.coWR (congrArg AKind.loadInfo hl) hhb
  exact ⟨i, s, Nat.lt_succ_of_le hij, hi⟩

theorem live_at_verdict (hc : Consistent X) (hp : Protocol X decOrd fenceOrd) (hvb : ViaBorn X)
    {l : X.A} {h : H} {o : MemOrd} {rf : Option Nat} (hl : X.kind l = .load h o rf)
    (hone : valRead X.ops rf = 1)
    (hnd : ∀ m, m < prefixLen rf → X.ops[m]? ≠ some (Op.dec h)) :
    (run (X.ops.take (prefixLen rf))).live = [h] :=
  live_singleton_of_val (inv_run (wf_take hc hp _)) (by rw [← valRead_eq]; exact hone) (reader_live hc hp hvb hl hnd)

theorem others_released (hc : Consistent X) (hp : Protocol X decOrd fenceOrd) (hvb : ViaBorn X)
    {l : X.A} {h : H} {o : MemOrd} {rf : Option Nat} (hl : X.kind l = .load h o rf)
    (hone : valRead X.ops rf = 1)
    (hnd : ∀ m, m < prefixLen rf → X.ops[m]? ≠ some (Op.dec h))
    {x : H} (hxb : x ∈ (run (X.ops.take (prefixLen rf))).born) (hne : x ≠ h) :
    ∃ m, m < prefixLen rf ∧ X.ops[m]? = some (Op.dec x) := by
  apply mem_take_iff.1
  apply released_of_not_live (wf_take hc hp _) hxb
  rw [live_at_verdict hc hp hvb hl hone hnd]
  exact fun hx => hne (List.mem_singleton.1 hx)

/-- **Former sharers, general form.**  At an Acquire load of the count through `h` that returns 1, an event that
happens-before the release of another handle born where the load read from happens-before the load.  `hnd` comes from
read-write coherence (`not_released_before`) or holds because `h` is never released (`Consume`). -/
theorem before_release_before_verdict (hc : Consistent X) (hp : Protocol X decOrd fenceOrd)
    (hvb : ViaBorn X) (hrel : decOrd.isRel = true)
    {l : X.A} {h : H} {o : MemOrd} {rf : Option Nat}
    (hl : X.kind l = .load h o rf) (hacq : o.isAcq = true) (hone : valRead X.ops rf = 1)
    (hnd : ∀ m, m < prefixLen rf → X.ops[m]? ≠ some (Op.dec h))
    {e : Ev X.A} {h' : H} (hb : h' ∈ (run (X.ops.take (prefixLen rf))).born) (hne : h' ≠ h)
    (hbe : ∀ m : Nat, X.ops[m]? = some (Op.dec h') → X.hb e (.rmw m)) : X.hb e (.oth l) := by
  refine before_release_before hc hp (acquires_of_load hc hp hrel (congrArg AKind.loadInfo hl) hacq) hb ?_ hbe
  rw [live_at_verdict hc hp hvb hl hone hnd]
  exact fun hx => hne (List.mem_singleton.1 hx)

/-- **C03/C08/C09, schedule part, former sharers.** If an Acquire load of the count through handle
`h` returns 1, every access ever made through any other handle that existed at the point the load
read from happens-before the load (hence before the mutable access it licenses). -/
theorem unique_verdict_exclusive (hc : Consistent X) (hp : Protocol X decOrd fenceOrd)
    (hrw : CoRW X) (hvb : ViaBorn X) (hrel : decOrd.isRel = true)
    {l : X.A} {h : H} {o : MemOrd} {rf : Option Nat}
    (hl : X.kind l = .load h o rf) (hacq : o.isAcq = true) (hone : valRead X.ops rf = 1) :
    ∀ (a : X.A) (h' : H), (X.kind a).via = some h' → h' ≠ h →
      (h' = 0 ∨ ∃ j, rf = some j ∧ h' ∈ kids (X.ops.take (j+1))) →
      X.hb (.oth a) (.oth l) := by
  intro a h' hva hne hborn
  exact before_release_before_verdict hc hp hvb hrel hl hacq hone (not_released_before hp hrw hl)
    (born_prefix_iff.2 hborn) hne (fun m hm => hp.via_alive hva hm)

end WM
