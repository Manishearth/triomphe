import TriompheModel.WM.FinExec
open Facts
namespace WM

/-! A concrete two-thread execution: thread A owns h0, clones it into h1 (RMW 0) and hands h1 to
thread B; B reads the payload (a1) and drops h1 (RMW 1, release); A reads the payload (a0), drops
h0 (RMW 2, reads 1), performs the acquire load (l) reading RMW 2, and destroys (f). -/


abbrev EA := Fin 4     -- 0 = a0, 1 = a1, 2 = l, 3 = f
def exOps : List Op := [.inc 1 0, .dec 1, .dec 0]
def exKind : EA → AKind
  | 0 => .access 0
  | 1 => .access 1
  | 2 => .fenceLoad 2 .acquire (some 2)
  | 3 => .destroy 2
def exOrd : Nat → MemOrd
  | 0 => .relaxed
  | _ => .release

def r (i : Nat) : Ev EA := .rmw i
def e (a : EA) : Ev EA := .oth a
/-- happens-before, transitively closed by hand -/
def exPairs : List (Ev EA × Ev EA) :=
  [ (r 0, e 0), (r 0, r 2), (r 0, e 2), (r 0, e 3), (e 0, r 2), (e 0, e 2), (e 0, e 3),
    (r 2, e 2), (r 2, e 3), (e 2, e 3),                      -- thread A program order
    (e 1, r 1),                                              -- thread B program order
    (r 0, e 1), (r 0, r 1),                                  -- h1 handed to B after the clone
    (r 1, e 2), (r 1, e 3), (e 1, e 2), (e 1, e 3) ]         -- release(RMW 1) → acquire load l

def exX : CountExec where
  A := EA
  ops := exOps
  ordR := exOrd
  kind := exKind
  hb := fun x y => (x, y) ∈ exPairs

theorem ex_admitted : FinExec.Admitted exX .release (some .acquire) := FinExec.checkAll_sound_fn (by decide +kernel)
theorem ex_consistent : Consistent exX := ex_admitted.consistent
theorem ex_protocol : Protocol exX .release (some .acquire) := ex_admitted.protocol

/-- the hypotheses of `destroy_after_all` are satisfiable, and its conclusion is about a real event -/
example : exX.hb (.oth (1 : EA)) (.oth (3 : EA)) :=
  (destroy_after_all ex_consistent ex_protocol rfl (Or.inr ⟨_, rfl, rfl⟩) (f := (3 : EA)) (k := 2) rfl).2.1
    (1 : EA) 1 rfl

end WM
