import TriompheModel.WM.FinExec
/-!
Necessity witness for the Acquire ordering of the uniqueness gate (same program as ExampleConsume, but the
gate load is Relaxed): thread A owns h0, clones it into h1 (RMW 0) and hands h1 to
thread B; B reads the payload (event 0) and drops h1 (RMW 1, release); A calls `try_unwrap`: its
Relaxed load of the count (event 1) reads RMW 1, sees 1, and A takes the value.
-/
open Facts
namespace WM
namespace ExGateRelaxed


abbrev EA := Fin 2     -- 0 = B's payload access through h1, 1 = A's gate load through h0
def exOps : List Op := [.inc 1 0, .dec 1]
def exKind : EA → AKind
  | 0 => .access 1
  | 1 => .load 0 .relaxed (some 1)
def exOrd : Nat → MemOrd
  | 0 => .relaxed
  | _ => .release
def r (i : Nat) : Ev EA := .rmw i
def e (a : EA) : Ev EA := .oth a
def exPairs : List (Ev EA × Ev EA) :=
  [ (r 0, e 0), (r 0, r 1), (e 0, r 1), (r 0, e 1) ]   -- no synchronises-with edge into the relaxed load

def exX : CountExec where
  A := EA
  ops := exOps
  ordR := exOrd
  kind := exKind
  hb := fun x y => (x, y) ∈ exPairs

theorem ex_admitted : FinExec.Admitted exX .release (some .acquire) := FinExec.checkAll_sound_fn (by decide +kernel)
theorem ex_consistent : Consistent exX := ex_admitted.consistent
theorem ex_protocol : Protocol exX .release (some .acquire) := ex_admitted.protocol
theorem ex_corw : CoRW exX := ex_admitted.corw
theorem ex_viaborn : ViaBorn exX := ex_admitted.viaborn

/-- **necessity of the Acquire in the uniqueness gate**: with a Relaxed gate load there is a
consistent, protocol-following execution in which the gate reads 1 (so `get_mut` would grant `&mut`)
while thread B's payload access is NOT ordered before it — the write would race with B's read. -/
theorem gate_acquire_needed :
    valRead exX.ops (some 1) = 1 ∧ ¬ exX.hb (.oth (0 : EA)) (.oth (1 : EA)) ∧ ¬ exX.hb (.oth (1 : EA)) (.oth (0 : EA)) := by
  refine ⟨by decide, ?_, ?_⟩ <;> (show ¬ (_ ∈ exPairs); decide)

end ExGateRelaxed
end WM
