import TriompheModel.WM.Ownership
import TriompheModel.WM.Consume
/-!
# `Consume` derived from the program

`Consume X l h ord rf` describes an unwrapping gate inside an execution; its last field (`clones_before`: every clone taken from
`h` happens-before the gate's load) is a happens-before fact.  For runs of the ownership semantics it follows from what the
*program* does: if every `clone h _` of the run was issued before the gate's load was (the gate takes `h` by value, so no clone
of `h` can follow) then each of them happens-before the load — `h` may have travelled between threads in the meantime.
-/
open Facts
namespace WM
namespace Own

variable {decOrd : MemOrd} {fenceOrd : Option MemOrd} (r : Run decOrd fenceOrd)
  (hb : Ev (Fin r.final.kinds.length) → Ev (Fin r.final.kinds.length) → Prop)

/-- **`Consume` from the program**: a gate whose Acquire load through `h` read 1, in a run that never drops `h` and issues no
clone of `h` after the load -/
theorem consume_of_run
    (hpo : ∀ x y, (lift x, lift y) ∈ r.final.po → hb x y)
    (hsw : ∀ x y, (lift x, lift y) ∈ r.final.sw → hb x y)
    (htrans : ∀ x y z, hb x y → hb y z → hb x z)
    {l : Fin r.final.kinds.length} {h : H} {ord : MemOrd} {rf : Option Nat}
    (hl : (execOf r.final hb).kind l = .load h ord rf) (hacq : ord.isAcq = true)
    (hone : valRead r.final.ops rf = 1)
    (hkeep : ∀ m : Nat, r.final.ops[m]? ≠ some (Op.dec h))
    (hno : ∀ (i : Nat) (ch : H), r.final.ops[i]? = some (Op.inc ch h) → i < stamp r.final l) :
    Consume (execOf r.final hb) l h ord rf := by
  obtain ⟨hA, hB⟩ := inv_of_run r hb hpo hsw htrans
  refine ⟨hl, hacq, hone, hkeep, ?_⟩
  intro j c hj
  have ht : Touch r.final (.rmw j) h := Or.inl ⟨c, hj⟩
  have hv : ((execOf r.final hb).kind l).via = some h := by rw [hl]; rfl
  exact hb_of_liftRel (x := .rmw j) (y := .oth l) ((hB.seq (stamp_get hA l) (uses_of_via hv) ht).1 (hno j c hj))

/-- `consume_of_run` for a finite happens-before, with its hypotheses in the form the checkers establish (as `run_fin`) -/
theorem consume_fin {decOrd : MemOrd} {fenceOrd : Option MemOrd} (r : Run decOrd fenceOrd)
    (pairs : List (Ev (Fin r.final.kinds.length) × Ev (Fin r.final.kinds.length)))
    (hc : Consistent (finOf r.final pairs).toExec)
    (hpo : coversB r.final.po pairs = true) (hsw : coversB r.final.sw pairs = true)
    {l : Fin r.final.kinds.length} {h : H} {ord : MemOrd} {rf : Option Nat}
    (hl : nthD (.access 0) r.final.kinds l.val = .load h ord rf) (hacq : ord.isAcq = true)
    (hone : valRead r.final.ops rf = 1)
    (hkeep : ∀ m : Nat, r.final.ops[m]? ≠ some (Op.dec h))
    (hno : ∀ (i : Nat) (ch : H), r.final.ops[i]? = some (Op.inc ch h) → i < stamp r.final l) :
    Consume (finOf r.final pairs).toExec l h ord rf :=
  consume_of_run r _ (coversB_sound hpo) (coversB_sound hsw) (fun _ _ _ => hc.hb_trans) hl hacq hone hkeep hno

end Own
end WM

#print axioms WM.Own.consume_of_run
