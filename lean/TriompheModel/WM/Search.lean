import TriompheModel.WM.FinExec
/-!
# Witness search: which orderings make a small program race?

Given the three orderings the translator extracts from the source —

* `decOrd`  : the `fetch_sub` in `drop_inner`,
* `fence`   : the load / fence between that decrement and destruction (`none`: there is none),
* `gateOrd` : the load in `is_unique`,

`raceWitnesses decOrd fence gateOrd` enumerates the executions of a *fixed family of small programs* (templates P1, P2, P3
below; every modification order of the decrements and every `rf` choice for the loads), builds happens-before as
`closure (program order ∪ hand-over ∪ synchronises-with)` with the synchronises-with edges computed exactly as
`Consistent.sw_load` / `Consistent.sw_rmw` dictate, keeps the candidates that pass `checkConsistent ∧ checkRfInRange ∧
checkProtocol decOrd fence ∧ checkCoRW ∧ checkViaBorn`, and returns those that contain two conflicting events unordered by
happens-before in both directions.

* A returned witness is a *proved* counterexample (`raceWitnesses_sound`, from the soundness theorems of `WM/FinExec.lean`):
  its execution is `Consistent` (also in the primitive release-sequence form `ConsistentPrim` of `WM/RelSeq.lean`), follows
  `Protocol decOrd fence`, satisfies `CoRW` and `ViaBorn`, and its two events are not ordered by `hb` either way.
* Emptiness of the result for the good orderings `(release, some acquire, acquire)` is a **test over this template family,
  not a theorem about all executions**.  The unbounded claims are `destroy_after_all`, `destroy_unique` (WM/Graph.lean),
  `unique_verdict_exclusive` (WM/Unique.lean), `consume_*` (WM/Consume.lean) and `later_sharers_after_write`,
  `no_access_concurrent_with_granted_write` (WM/Later.lean).

Templates (thread A owns h0; RMW 0 = `inc 1 0` clones it into h1, which is handed to thread B — the
hand-over is a synchronisation outside the count: `rmw0 → B's first event`):

* **P1** "clone, hand over, both read, both drop": B: access h1; dec h1.  A: access h0; dec h0.  The
  thread whose decrement reads 1 runs the fence load (if any) and `destroy`.  Both modification
  orders of the two decrements.  Conflict: a payload access vs `destroy`.
* **P2** "poll `get_mut` and write": B: access h1; dec h1.  A: load through h0 with `gateOrd`; if it
  reads the value 1: access h0 (the granted write).  Conflict: B's access vs the granted write.
* **P3** "`try_unwrap` vs drop": as P2 with the consuming gate: on success A moves the value out
  (access h0) and never releases h0; on failure A gets its handle back and drops it, so the run
  continues as P1 (both modification orders).  Conflicts: B's access vs the move-out, resp. vs `destroy`.
-/
open Facts
namespace WM
namespace Search

/-- events before the bound `n` of the execution is known -/
inductive RawEv where
  | r (i : Nat)
  | e (a : Nat)

def rawToEv (n : Nat) : RawEv → Option (Ev (Fin n))
  | .r i => some (.rmw i)
  | .e a => if h : a < n then some (.oth ⟨a, h⟩) else none

/-- a program run before closing: RMWs in modification order, events, program order and hand-over
edges, and the pairs of events that conflict (same location, one a write / the deallocation) -/
structure Skel where
  name : String
  ops : List Op
  ords : List MemOrd
  kinds : List AKind
  po : List (RawEv × RawEv)
  conflicts : List (Nat × Nat)

/-- synchronises-with, exactly as `Consistent.sw_load` and `Consistent.sw_rmw` dictate -/
def swEdges (nops : Nat) (ords : List MemOrd) (kinds : List AKind) : List (RawEv × RawEv) :=
  ((List.range kinds.length).flatMap fun a =>
    match (nthD (.access 0) kinds a).loadInfo with
    | some (o, some j) =>
      if o.isAcq then
        (List.range (j+1)).filterMap fun i => if (nthD .relaxed ords i).isRel then some (.r i, .e a) else none
      else []
    | _ => []) ++
  ((List.range nops).flatMap fun j =>
    if (nthD .relaxed ords j).isAcq then
      (List.range j).filterMap fun i => if (nthD .relaxed ords i).isRel then some (.r i, .r j) else none
    else [])

def Skel.toExec (s : Skel) : FinExec where
  n := s.kinds.length
  ops := s.ops
  ords := s.ords
  kinds := s.kinds
  pairs := closure ((s.po ++ swEdges s.ops.length s.ords s.kinds).filterMap fun p =>
    match rawToEv s.kinds.length p.1, rawToEv s.kinds.length p.2 with
    | some x, some y => some (x, y)
    | _, _ => none)

structure Witness where
  name : String
  F : FinExec
  a : Fin F.n
  b : Fin F.n

def Skel.cands (s : Skel) : List Witness :=
  let F := s.toExec
  s.conflicts.filterMap fun p =>
    if ha : p.1 < F.n then if hb : p.2 < F.n then some ⟨s.name, F, ⟨p.1, ha⟩, ⟨p.2, hb⟩⟩ else none else none

/-- the two events conflict: a payload access against the destruction, or against a payload access
through a different handle (one of them being the write granted by a gate / the move-out) -/
def conflictKinds : AKind → AKind → Bool
  | .access _, .destroy _ => true
  | .access h, .access h' => !(Nat.beq h h')
  | _, _ => false

def Witness.valid (decOrd : MemOrd) (fence : Option MemOrd) (w : Witness) : Bool :=
  -- `forcePairs l k = k l`: evaluate `closure …` once (matters for kernel evaluation only)
  forcePairs w.F.pairs fun ps =>
    let F : FinExec := ⟨w.F.n, w.F.ops, w.F.ords, w.F.kinds, ps⟩
    F.checkConsistent && F.checkRfInRange && F.checkProtocol decOrd fence && F.checkCoRW && F.checkViaBorn &&
    conflictKinds (F.kind w.a) (F.kind w.b) &&
    !(F.hbB (.oth w.a) (.oth w.b)) && !(F.hbB (.oth w.b) (.oth w.a))

/-! ## the templates -/

abbrev R (i : Nat) : RawEv := .r i
abbrev E (a : Nat) : RawEv := .e a

/-- what a load may read from: the initialising store or any of the RMWs -/
def rfChoices (nops : Nat) : List (Option Nat) := none :: (List.range nops).map some

/-- the destroyer's tail after its decrement `k`: the fence load (if any) and `destroy`.  `base` is
the index of the first new event.  Returns kinds, program-order edges, index of `destroy`. -/
def tail (k base : Nat) (fence : Option MemOrd) (rf : Option Nat) : List AKind × List (RawEv × RawEv) × Nat :=
  match fence with
  | some o => ([AKind.fenceLoad k o rf, AKind.destroy k], [(R k, E base), (E base, E (base+1))], base + 1)
  | none => ([AKind.destroy k], [(R k, E base)], base)

/-- P1.  Events: 0 = B's access through h1, 1 = A's access through h0, then the destroyer's tail. -/
def p1 (decOrd : MemOrd) (fence : Option MemOrd) : List Skel :=
  (match fence with | some _ => rfChoices 3 | none => [none]).flatMap fun rf =>
    let (tk, tpo, d) := tail 2 2 fence rf
    [ { name := "P1 clone/hand-over/read/drop; mo: dec h1 (B), dec h0 (A); A destroys"
        ops := [Op.inc 1 0, Op.dec 1, Op.dec 0]
        ords := [MemOrd.relaxed, decOrd, decOrd]
        kinds := [AKind.access 1, AKind.access 0] ++ tk
        po := [(R 0, E 0), (E 0, R 1), (R 0, E 1), (E 1, R 2)] ++ tpo
        conflicts := [(0, d), (1, d)] : Skel },
      { name := "P1 clone/hand-over/read/drop; mo: dec h0 (A), dec h1 (B); B destroys"
        ops := [Op.inc 1 0, Op.dec 0, Op.dec 1]
        ords := [MemOrd.relaxed, decOrd, decOrd]
        kinds := [AKind.access 1, AKind.access 0] ++ tk
        po := [(R 0, E 0), (E 0, R 2), (R 0, E 1), (E 1, R 1)] ++ tpo
        conflicts := [(0, d), (1, d)] : Skel } ]

/-- P2 (`keepFailed = true`: the run in which the gate fails is kept, without a write) and the success branch of P3
(`keepFailed = false`).
Events: 0 = B's access through h1, 1 = A's gate load through h0, 2 = the granted write / move-out
(present iff the gate read the value 1). -/
def gateProg (name : String) (decOrd gateOrd : MemOrd) (keepFailed : Bool) : List Skel :=
  let ops := [Op.inc 1 0, Op.dec 1]
  (rfChoices 2).filterMap fun rf =>
    let granted := decide (valRead ops rf = 1)
    if granted || keepFailed then
      some { name := name
             ops := ops
             ords := [MemOrd.relaxed, decOrd]
             kinds := [AKind.access 1, AKind.load 0 gateOrd rf] ++ (if granted then [AKind.access 0] else [])
             po := [(R 0, E 0), (E 0, R 1), (R 0, E 1)] ++ (if granted then [(E 1, E 2)] else [])
             conflicts := if granted then [(0, 2)] else [] : Skel }
    else none

def p2 (decOrd gateOrd : MemOrd) : List Skel :=
  gateProg "P2 poll get_mut and write (write iff the gate read 1)" decOrd gateOrd true

/-- P3, failure branch: the gate did not read 1, A gets its handle back and drops it.
Events: 0 = B's access through h1, 1 = A's failed gate load through h0, then the destroyer's tail. -/
def p3err (decOrd : MemOrd) (fence : Option MemOrd) (gateOrd : MemOrd) : List Skel :=
  (rfChoices 3).flatMap fun rfG =>
  (match fence with | some _ => rfChoices 3 | none => [none]).flatMap fun rf =>
    let (tk, tpo, d) := tail 2 2 fence rf
    let opsBA := [Op.inc 1 0, Op.dec 1, Op.dec 0]
    let opsAB := [Op.inc 1 0, Op.dec 0, Op.dec 1]
    (if decide (valRead opsBA rfG = 1) then [] else
      [ { name := "P3 try_unwrap fails, then drop; mo: dec h1 (B), dec h0 (A); A destroys"
          ops := opsBA
          ords := [MemOrd.relaxed, decOrd, decOrd]
          kinds := [AKind.access 1, AKind.load 0 gateOrd rfG] ++ tk
          po := [(R 0, E 0), (E 0, R 1), (R 0, E 1), (E 1, R 2)] ++ tpo
          conflicts := [(0, d)] : Skel } ]) ++
    (if decide (valRead opsAB rfG = 1) then [] else
      [ { name := "P3 try_unwrap fails, then drop; mo: dec h0 (A), dec h1 (B); B destroys"
          ops := opsAB
          ords := [MemOrd.relaxed, decOrd, decOrd]
          kinds := [AKind.access 1, AKind.load 0 gateOrd rfG] ++ tk
          po := [(R 0, E 0), (E 0, R 2), (R 0, E 1), (E 1, R 1)] ++ tpo
          conflicts := [(0, d)] : Skel } ])

def p3 (decOrd : MemOrd) (fence : Option MemOrd) (gateOrd : MemOrd) : List Skel :=
  gateProg "P3 try_unwrap succeeds: value moved out, h0 never released" decOrd gateOrd false ++
  p3err decOrd fence gateOrd

def programs (decOrd : MemOrd) (fence : Option MemOrd) (gateOrd : MemOrd) : List Skel :=
  p1 decOrd fence ++ p2 decOrd gateOrd ++ p3 decOrd fence gateOrd

def candidates (decOrd : MemOrd) (fence : Option MemOrd) (gateOrd : MemOrd) : List Witness :=
  (programs decOrd fence gateOrd).flatMap Skel.cands

def raceWitnesses (decOrd : MemOrd) (fence : Option MemOrd) (gateOrd : MemOrd) : List Witness :=
  (candidates decOrd fence gateOrd).filter (Witness.valid decOrd fence)

/-- how many executions of the family are consistent and follow the protocol (sanity: the search is
not empty-handed because everything was filtered out) -/
def admitted (decOrd : MemOrd) (fence : Option MemOrd) (gateOrd : MemOrd) : Nat :=
  ((programs decOrd fence gateOrd).filter fun s =>
    let F := s.toExec
    F.checkConsistent && F.checkRfInRange && F.checkProtocol decOrd fence && F.checkCoRW && F.checkViaBorn).length

/-- **a reported witness is a proved race**: a consistent, protocol-following execution with two
conflicting events that happens-before does not order. -/
theorem raceWitnesses_sound {decOrd : MemOrd} {fence : Option MemOrd} {gateOrd : MemOrd} {w : Witness}
    (h : w ∈ raceWitnesses decOrd fence gateOrd) :
    Consistent w.F.toExec ∧ ConsistentPrim w.F.toExec ∧ Protocol w.F.toExec decOrd fence ∧ CoRW w.F.toExec ∧ ViaBorn w.F.toExec ∧
    conflictKinds (w.F.toExec.kind w.a) (w.F.toExec.kind w.b) = true ∧
    ¬ w.F.toExec.hb (.oth w.a) (.oth w.b) ∧ ¬ w.F.toExec.hb (.oth w.b) (.oth w.a) := by
  have hv := (List.mem_filter.1 h).2
  simp only [Witness.valid, forcePairs_eq, Bool.and_eq_true, Bool.not_eq_true'] at hv
  obtain ⟨⟨⟨⟨⟨⟨⟨h1, hr⟩, h2⟩, h3⟩, h4⟩, h5⟩, h6⟩, h7⟩ := hv
  exact ⟨FinExec.checkConsistent_sound h1, FinExec.checkConsistentPrim_sound h1 hr, FinExec.checkProtocol_sound h2, FinExec.checkCoRW_sound h3,
    FinExec.checkViaBorn_sound h4, h5, FinExec.not_hb_of_hbB h6, FinExec.not_hb_of_hbB h7⟩

/-! ## rendering -/

def showOrd : MemOrd → String
  | .relaxed => "relaxed" | .acquire => "acquire" | .release => "release"
  | .acqrel => "acqrel" | .seqcst => "seqcst" | .unknown => "unknown"

def parseOrd : String → Option MemOrd
  | "relaxed" => some .relaxed | "acquire" => some .acquire | "release" => some .release
  | "acqrel" => some .acqrel | "seqcst" => some .seqcst | "unknown" => some .unknown
  | _ => none

def showOp : Op → String
  | .inc c s => s!"inc(h{c} cloned from h{s})"
  | .dec h => s!"dec(h{h})"

def showRf : Option Nat → String
  | none => "init"
  | some j => s!"rmw{j}"

def showKind : AKind → String
  | .load h o rf => s!"load via h{h} {showOrd o} rf={showRf rf}"
  | .access h => s!"access via h{h}"
  | .fenceLoad k o rf => s!"fenceLoad after rmw{k} {showOrd o} rf={showRf rf}"
  | .destroy k => s!"destroy after rmw{k}"

def showEv {n : Nat} : Ev (Fin n) → String
  | .rmw i => s!"rmw{i}"
  | .oth a => s!"e{a.val}"

def renderExec (F : FinExec) : List String :=
  ["  ops (modification order):"] ++
  (indexed F.ops 0).map (fun io => s!"    rmw{io.1} = {showOp io.2} [{showOrd (F.ordR io.1)}]") ++
  ["  events:"] ++
  (List.range F.n).map (fun a => s!"    e{a} = {showKind (nthD (.access 0) F.kinds a)}") ++
  ["  hb: " ++ " ".intercalate (F.pairs.map fun p => s!"{showEv p.1}<{showEv p.2}")]

def Witness.render (w : Witness) : List String :=
  [s!"witness: {w.name}"] ++ renderExec w.F ++
  [s!"  race: e{w.a.val} ({showKind (w.F.kind w.a)}) || e{w.b.val} ({showKind (w.F.kind w.b)}): unordered by hb"]

def report (decOrd : MemOrd) (fence : Option MemOrd) (gateOrd : MemOrd) : List String :=
  let ws := raceWitnesses decOrd fence gateOrd
  s!"witnesses={ws.length}" :: ws.flatMap Witness.render

/-! ## tests over the template family -/

-- the orderings of the crate: no race in any run of any template …
#guard (raceWitnesses .release (some .acquire) .acquire).length == 0
#guard (raceWitnesses .acqrel none .acquire).length == 0
#guard (raceWitnesses .seqcst (some .seqcst) .seqcst).length == 0
-- … although plenty of runs are admitted (the filter does not reject everything)
#guard admitted .release (some .acquire) .acquire ≥ 6
-- weakening any one of the three orderings yields a race
#guard (raceWitnesses .relaxed (some .acquire) .acquire).length > 0
#guard (raceWitnesses .release none .acquire).length > 0
#guard (raceWitnesses .release (some .relaxed) .acquire).length > 0
#guard (raceWitnesses .release (some .acquire) .relaxed).length > 0
-- an Acquire-only decrement (no release) races as well
#guard (raceWitnesses .acquire (some .acquire) .acquire).length > 0

end Search
end WM

#print axioms WM.Search.raceWitnesses_sound
