import TriompheModel.WM.OwnershipConsume
/-!
# A `try_unwrap`-shaped run of the ownership semantics (non-vacuity of `Props/C09Programs.lean`)

Thread 0 clones handle 0 into 1 and hands 1 to thread 1; thread 1 reads through it and drops it (Release); thread 0's
unwrapping gate loads the count through handle 0 with Acquire, reads that decrement (value 1), and keeps the value: handle 0
is never released.  `Protocol` and `ViaBorn` come from the run (theorem), `Consistent`, `CoRW` and `Consume` from the
proved-sound checkers of `WM/FinExec.lean`.
-/
namespace WM
namespace Own
namespace ExUnwrap

def steps : List (Nat × Instr) :=
  [ (0, .clone 0 1), (0, .send 1 1),
    (1, .access 1),                    -- event 0
    (1, .drop 1 none),                 -- RMW 1
    (0, .load 0 .acquire (some 1)) ]   -- event 1 = the gate's load

def exRun : Run .release (some .acquire) := Run.ofSteps _ _ steps (by decide +kernel)

abbrev EA := Fin 2
def exPairs : List (Ev EA × Ev EA) := hbPairs exRun.final [(.rmw 1, .oth 1)]
def exF : FinExec := finOf exRun.final exPairs
abbrev exX : CountExec := exF.toExec

/-- what evaluation establishes, in one kernel evaluation (`exPairs`, a `closure`, is computed once): the memory-model side
by the checkers, and that `exPairs` contains the recorded edges -/
theorem ex_checked : Consistent exX ∧ CoRW exX ∧ coversB exRun.final.po exPairs = true ∧
    coversB exRun.final.sw exPairs = true ∧ Consume exX (1 : EA) 0 .acquire (some 1) := by
  have h : forcePairs exPairs (fun ps => (finOf exRun.final ps).checkConsistent && (finOf exRun.final ps).checkCoRW &&
      coversB exRun.final.po ps && coversB exRun.final.sw ps &&
      (finOf exRun.final ps).checkConsume (1 : EA) 0 .acquire (some 1)) = true := by decide +kernel
  simp only [forcePairs_eq, Bool.and_eq_true] at h
  exact ⟨FinExec.checkConsistent_sound h.1.1.1.1, FinExec.checkCoRW_sound h.1.1.1.2, h.1.1.2, h.1.2,
    FinExec.checkConsume_sound h.2⟩

theorem ex_consistent : Consistent exX := ex_checked.1
theorem ex_corw : CoRW exX := ex_checked.2.1
theorem ex_po : coversB exRun.final.po exPairs = true := ex_checked.2.2.1
theorem ex_sw : coversB exRun.final.sw exPairs = true := ex_checked.2.2.2.1
theorem ex_consume : Consume exX (1 : EA) 0 .acquire (some 1) := ex_checked.2.2.2.2

/-- the value moved out by thread 0 is never destroyed -/
theorem ex_not_destroyed : ¬ ∃ f k, exX.kind f = .destroy k := by
  rintro ⟨f, k, hf⟩
  have hr := run_fin exRun exPairs ex_consistent ex_po ex_sw
  exact consume_excludes_destroy ex_consistent hr.1 ex_corw hr.2.1 ex_consume hf

/-- the same `Consume`, this time **from the program** (`consume_of_run`): the run never drops handle 0 and both RMWs of
the run were issued before the gate's load -/
theorem ex_consume_of_program : Consume exX (1 : EA) 0 .acquire (some 1) := by
  have hops : exRun.final.ops = [Op.inc 1 0, Op.dec 1] := by decide +kernel
  have hst : stamp exRun.final (1 : EA) = 2 := by decide +kernel
  refine consume_fin exRun exPairs ex_consistent ex_po ex_sw (l := (1 : EA)) (by decide +kernel) rfl (by decide +kernel) ?_ ?_
  · intro m hm
    exact absurd (hops ▸ List.mem_of_getElem? hm) (by decide)
  · intro i ch hi
    have := lt_of_getElem? hi
    rw [hops] at this
    rw [hst]; exact this

end ExUnwrap
end Own
end WM

#print axioms WM.Own.ExUnwrap.ex_not_destroyed
#print axioms WM.Own.ExUnwrap.ex_consume_of_program
