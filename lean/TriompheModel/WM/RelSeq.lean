import TriompheModel.WM.Graph
/-!
# Release sequences: from the primitive C++20 / RC11 definition to the index form used in `Consistent`

`Consistent` (WM/Graph.lean) states synchronises-with in *index form*: "a release RMW `i`
synchronises with an acquire load that reads RMW `j ≥ i`, and with an acquire RMW `j > i`".
This file derives that form from the primitive definitions, for a location all of whose writes after
the initialising store are RMWs (the reference count: `AtomicUsize::new(1)`, then only
`fetch_add` / `fetch_sub`):

* **atomicity of RMWs** ([atomics.order]/10): an RMW reads the last value in modification order
  before its own write — RMW `j` reads from RMW `j-1` (RMW `0` from the initialising store);
* **release sequence** ([intro.races]/5, C++20): headed by a release operation `A`, a maximal
  contiguous sub-sequence of the modification order starting at `A` in which every subsequent
  operation is an RMW — `InRelSeq`;
* **synchronises-with** ([atomics.order]/2): a release operation `A` synchronises with an acquire
  operation `B` that takes its value from any side effect in the release sequence headed by `A`.

`ConsistentPrim` is `Consistent` with synchronises-with stated primitively; `ConsistentPrim.toConsistent`
shows it implies `Consistent`, so every theorem of WM/*.lean holds under the primitive axioms.
-/
open Facts
namespace WM

/-- `InRelSeq n i j`: RMW `j` belongs to the release sequence headed by RMW `i`, in a modification
order with `n` RMWs (all writes after `i` are RMWs, so nothing ever breaks the sequence) -/
inductive InRelSeq (n : Nat) : Nat → Nat → Prop
  | head {i : Nat} : i < n → InRelSeq n i i
  | next {i j : Nat} : InRelSeq n i j → j + 1 < n → InRelSeq n i (j + 1)

theorem inRelSeq_iff {n i j : Nat} : InRelSeq n i j ↔ i ≤ j ∧ j < n := by
  constructor
  · intro h
    induction h with
    | head hi => exact ⟨Nat.le_refl _, hi⟩
    | next _ hj ih => exact ⟨Nat.le_succ_of_le ih.1, hj⟩
  · rintro ⟨hij, hj⟩
    induction hij with
    | refl => exact .head hj
    | step _ ih => exact .next (ih (Nat.lt_of_succ_lt hj)) hj

/-- what an RMW reads from: its immediate predecessor in modification order (atomicity) -/
def rmwReadsFrom : Nat → Option Nat
  | 0 => none
  | j + 1 => some j

structure ConsistentPrim (X : CountExec) : Prop where
  hb_trans : ∀ {a b c}, X.hb a b → X.hb b c → X.hb a c
  hb_irrefl : ∀ a, ¬ X.hb a a
  coWW : ∀ {i j : Nat}, X.hb (.rmw i) (.rmw j) → i < j
  coWR : ∀ {i : Nat} {a : X.A} {o : MemOrd} {rf : Option Nat}, (X.kind a).loadInfo = some (o, rf) → X.hb (.rmw i) (.oth a) →
      ∃ j, rf = some j ∧ i ≤ j
  /-- a release RMW synchronises with an acquire *load* that reads from a member of its release sequence -/
  sw_load_prim : ∀ {i w : Nat} {a : X.A} {o : MemOrd}, (X.ordR i).isRel = true → InRelSeq X.ops.length i w →
      (X.kind a).loadInfo = some (o, some w) → o.isAcq = true → X.hb (.rmw i) (.oth a)
  /-- … and with an acquire *RMW* that reads (atomically, from its mo-predecessor) a member of it -/
  sw_rmw_prim : ∀ {i w j : Nat}, (X.ordR i).isRel = true → InRelSeq X.ops.length i w → j < X.ops.length →
      rmwReadsFrom j = some w → (X.ordR j).isAcq = true → X.hb (.rmw i) (.rmw j)
  /-- loads only read writes that exist -/
  rf_in_range : ∀ {a : X.A} {o : MemOrd} {w : Nat}, (X.kind a).loadInfo = some (o, some w) → w < X.ops.length

theorem ConsistentPrim.toConsistent {X : CountExec} (h : ConsistentPrim X) : Consistent X where
  hb_trans := h.hb_trans
  hb_irrefl := h.hb_irrefl
  coWW := h.coWW
  coWR := h.coWR
  sw_load := by
    intro i j a o hrel hl hacq hij
    exact h.sw_load_prim hrel (inRelSeq_iff.2 ⟨hij, h.rf_in_range hl⟩) hl hacq
  sw_rmw := by
    intro i j hrel hacq hij hj
    cases j with
    | zero => exact absurd hij (Nat.not_lt_zero i)
    | succ w =>
      exact h.sw_rmw_prim hrel (inRelSeq_iff.2 ⟨Nat.le_of_lt_succ hij, Nat.lt_of_succ_lt hj⟩) hj rfl hacq

theorem Consistent.toPrim {X : CountExec} (c : Consistent X)
    (hr : ∀ {a : X.A} {o : MemOrd} {w : Nat}, (X.kind a).loadInfo = some (o, some w) → w < X.ops.length) :
    ConsistentPrim X where
  hb_trans := c.hb_trans
  hb_irrefl := c.hb_irrefl
  coWW := c.coWW
  coWR := c.coWR
  sw_load_prim := fun hrel hin hl hacq => c.sw_load hrel hl hacq (inRelSeq_iff.1 hin).1
  sw_rmw_prim := by
    intro i w j hrel hin hj hrf hacq
    cases j with
    | zero => cases hrf
    | succ j' =>
      cases hrf
      exact c.sw_rmw hrel hacq (Nat.lt_succ_of_le (inRelSeq_iff.1 hin).1) hj
  rf_in_range := hr

variable {X : CountExec} {decOrd : MemOrd} {fenceOrd : Option MemOrd}

theorem destroy_after_all_prim (hc : ConsistentPrim X) (hp : Protocol X decOrd fenceOrd)
    (hrel : decOrd.isRel = true)
    (hacq : decOrd.isAcq = true ∨ ∃ o, fenceOrd = some o ∧ o.isAcq = true)
    {f : X.A} {k : Nat} (hf : X.kind f = .destroy k) :
    k + 1 = X.ops.length ∧
    (∀ a h, (X.kind a).via = some h → X.hb (.oth a) (.oth f)) ∧
    (∀ i, i < X.ops.length → i ≠ k → X.hb (.rmw i) (.oth f)) :=
  destroy_after_all hc.toConsistent hp hrel hacq hf

example : InRelSeq 5 1 3 := inRelSeq_iff.2 ⟨by decide, by decide⟩
example : ¬ InRelSeq 5 3 1 := fun h => by have := (inRelSeq_iff.1 h).1; omega

end WM
