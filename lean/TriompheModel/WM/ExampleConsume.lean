import TriompheModel.WM.FinExec
/-!
Non-vacuity of the `Consume` theorems: thread A owns h0, clones it into h1 (RMW 0) and hands h1 to
thread B; B reads the payload (event 0) and drops h1 (RMW 1, release); A calls `try_unwrap`: its
Acquire load of the count (event 1) reads RMW 1, sees 1, and A takes the value.
-/
open Facts
namespace WM
namespace ExC


abbrev EA := Fin 2     -- 0 = B's payload access through h1, 1 = A's gate load through h0
def exOps : List Op := [.inc 1 0, .dec 1]
def exKind : EA → AKind
  | 0 => .access 1
  | 1 => .load 0 .acquire (some 1)
def exOrd : Nat → MemOrd
  | 0 => .relaxed
  | _ => .release
def r (i : Nat) : Ev EA := .rmw i
def e (a : EA) : Ev EA := .oth a
def exPairs : List (Ev EA × Ev EA) :=
  [ (r 0, e 0), (r 0, r 1), (e 0, r 1), (r 0, e 1), (r 1, e 1), (e 0, e 1) ]

def exX : CountExec where
  A := EA
  ops := exOps
  ordR := exOrd
  kind := exKind
  hb := fun x y => (x, y) ∈ exPairs

theorem ex_admitted : FinExec.Admitted exX .release (some .acquire) := FinExec.checkAll_sound_fn (by decide +kernel)
theorem ex_consistent : Consistent exX := ex_admitted.consistent
theorem ex_protocol : Protocol exX .release (some .acquire) := ex_admitted.protocol
theorem ex_corw : CoRW exX := ex_admitted.corw
theorem ex_viaborn : ViaBorn exX := ex_admitted.viaborn
theorem ex_consume : Consume exX (1 : EA) 0 .acquire (some 1) := FinExec.checkConsume_sound_fn (by decide +kernel)

/-- the theorem says something about this execution: B's read happens-before A's gate -/
example : exX.hb (.oth (0 : EA)) (.oth (1 : EA)) :=
  consume_after_all_former_sharers ex_consistent ex_protocol ex_corw ex_viaborn rfl ex_consume
    (0 : EA) 1 rfl (by decide) (Or.inr ⟨1, rfl, by decide⟩)

end ExC
end WM
