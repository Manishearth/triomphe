import TriompheModel.WM.Counting
/-!
# Who is live in a well-formed counting history

`deads ops` / `kids ops` are the handles released / created by `ops`.  In a well-formed history a handle is live iff it was
born and has not been released (`live_iff`); hence no handle is created twice or released twice (`WF.fresh`, `WF.dec_once`),
which is what `Protocol` (WM/Graph.lean) asks of an execution.
-/
namespace WM

def deads : List Op → List H
  | [] => []
  | .dec h :: r => h :: deads r
  | .inc _ _ :: r => deads r

theorem deads_append (a b : List Op) : deads (a ++ b) = deads a ++ deads b := by
  induction a with
  | nil => rfl
  | cons o r ih => cases o <;> simp [deads, ih]

theorem mem_deads {ops : List Op} {h : H} : h ∈ deads ops ↔ Op.dec h ∈ ops := by
  induction ops with
  | nil => simp [deads]
  | cons o r ih => cases o <;> simp [deads, ih]

def kids : List Op → List H
  | [] => []
  | .inc c _ :: r => c :: kids r
  | .dec _ :: r => kids r

theorem kids_append (a b : List Op) : kids (a ++ b) = kids a ++ kids b := by
  induction a with
  | nil => rfl
  | cons o r ih => cases o <;> simp [kids, ih]

theorem mem_kids {ops : List Op} {c : H} : c ∈ kids ops ↔ ∃ s, Op.inc c s ∈ ops := by
  induction ops with
  | nil => simp [kids]
  | cons o r ih =>
    cases o with
    | inc c' s' =>
      simp only [kids, List.mem_cons, ih, Op.inc.injEq, exists_or, exists_and_left, exists_eq, and_true]
    | dec k => simp [kids, ih]

theorem born_foldl (ops : List Op) : ∀ s : St, (ops.foldl St.step s).born = (kids ops).reverse ++ s.born := by
  induction ops with
  | nil => intro s; rfl
  | cons o r ih =>
    intro s
    rw [List.foldl_cons, ih]
    cases o <;> simp [St.step, stepBorn, kids]

theorem born_run (ops : List Op) (h : H) : h ∈ (run ops).born ↔ h = 0 ∨ h ∈ kids ops := by
  simp [run, born_foldl, St.init, or_comm]

theorem live_iff {ops : List Op} (hw : WF ops) :
    (∀ h, h ∈ (run ops).live ↔ h ∈ (run ops).born ∧ h ∉ deads ops) ∧
    (∀ h, h ∈ deads ops → h ∈ (run ops).born) := by
  induction hw with
  | nil => simp [run, St.init, deads]
  | @snoc ops o hw he ih =>
    have hi := inv_run hw
    obtain ⟨ih1, ih2⟩ := ih
    rw [run_snoc, deads_append]
    cases o with
    | inc c s =>
      -- live and born gain `c`, which was not born, hence not released
      have hcd : c ∉ deads ops := fun h => he.2 (ih2 _ h)
      refine ⟨fun h => ?_, fun h hh => List.mem_cons_of_mem _ (ih2 h (by simpa [deads] using hh))⟩
      show h ∈ c :: (run ops).live ↔ h ∈ c :: (run ops).born ∧ h ∉ deads ops ++ []
      rw [List.append_nil, List.mem_cons, List.mem_cons, ih1, or_and_right,
        and_iff_left_of_imp (fun e : h = c => e ▸ hcd)]
    | dec k =>
      -- live loses `k`, which was live, hence born; `k` joins the released
      have hk : k ∈ (run ops).live := he
      refine ⟨fun h => ?_, fun h hh => ?_⟩
      · show h ∈ (run ops).live.erase k ↔ h ∈ (run ops).born ∧ h ∉ deads ops ++ [k]
        rw [hi.nodup.mem_erase_iff, ih1, List.mem_append, List.mem_singleton, not_or]
        exact ⟨fun ⟨a, b, c⟩ => ⟨b, c, a⟩, fun ⟨b, c, a⟩ => ⟨a, b, c⟩⟩
      · rcases List.mem_append.1 hh with hh | hh
        · exact ih2 _ hh
        · rw [List.mem_singleton.1 hh]; exact hi.sub _ hk

theorem released_of_not_live {ops : List Op} (hw : WF ops) {h : H} (hb : h ∈ (run ops).born)
    (hnl : h ∉ (run ops).live) : Op.dec h ∈ ops := by
  apply mem_deads.1
  apply Classical.byContradiction
  intro hnd
  exact hnl (((live_iff hw).1 h).2 ⟨hb, hnd⟩)

theorem getElem?_snoc {α : Type} {l : List α} {a b : α} {i : Nat} :
    (l ++ [a])[i]? = some b ↔ l[i]? = some b ∨ (i = l.length ∧ a = b) := by
  rcases Nat.lt_trichotomy i l.length with h | rfl | h
  · rw [List.getElem?_append_left h]
    exact ⟨Or.inl, fun h' => h'.resolve_right fun e => Nat.ne_of_lt h e.1⟩
  · rw [List.getElem?_concat_length, List.getElem?_eq_none (Nat.le_refl _)]
    simp
  · rw [List.getElem?_eq_none (Nat.le_of_lt h), List.getElem?_eq_none (by rw [List.length_append]; exact h)]
    exact ⟨nofun, fun h' => h'.elim nofun fun e => absurd e.1 (Nat.ne_of_gt h)⟩

theorem Own.lt_of_getElem? {α : Type} {l : List α} {i : Nat} {a : α} (h : l[i]? = some a) : i < l.length :=
  (List.getElem?_eq_some_iff.1 h).1

theorem WF.fresh {ops : List Op} (hw : WF ops) :
    ∀ {i j : Nat} {c s s' : H}, ops[i]? = some (Op.inc c s) → ops[j]? = some (Op.inc c s') →
      i = j ∧ c ≠ 0 := by
  induction hw with
  | nil => intro i j c s s' hi; simp at hi
  | @snoc ops o hw he ih =>
    intro i j c s s' hi hj
    -- an `inc c _` already in `ops` makes `c` born, so the appended op cannot create `c` again
    have hborn : ∀ {k : Nat} {s : H}, ops[k]? = some (Op.inc c s) → c ∈ (run ops).born := fun hk =>
      (born_run _ _).2 (Or.inr (mem_kids.2 ⟨_, List.mem_iff_getElem?.2 ⟨_, hk⟩⟩))
    rcases getElem?_snoc.1 hi with gi | ⟨ei, rfl⟩ <;> rcases getElem?_snoc.1 hj with gj | ⟨ej, ho⟩
    · exact ih gi gj
    · cases ho; exact absurd (hborn gi) he.2
    · exact absurd (hborn gj) he.2
    · exact ⟨ei.trans ej.symm, fun h0 => he.2 ((born_run _ _).2 (Or.inl h0))⟩

theorem WF.dec_once {ops : List Op} (hw : WF ops) :
    ∀ {i j : Nat} {h : H}, ops[i]? = some (Op.dec h) → ops[j]? = some (Op.dec h) → i = j := by
  induction hw with
  | nil => intro i j h hi; simp at hi
  | @snoc ops o hw he ih =>
    intro i j h hi hj
    have hdead : ∀ {k : Nat}, ops[k]? = some (Op.dec h) → h ∉ (run ops).live := fun hk hl =>
      (((live_iff hw).1 h).1 hl).2 (mem_deads.2 (List.mem_iff_getElem?.2 ⟨_, hk⟩))
    rcases getElem?_snoc.1 hi with gi | ⟨ei, rfl⟩ <;> rcases getElem?_snoc.1 hj with gj | ⟨ej, ho⟩
    · exact ih gi gj
    · cases ho; exact absurd he (hdead gi)
    · exact absurd he (hdead gj)
    · exact ei.trans ej.symm

theorem WF.dead_born {ops : List Op} (hw : WF ops) {h : H} (hd : h ∈ deads ops) : h = 0 ∨ h ∈ kids ops :=
  (born_run _ _).1 ((live_iff hw).2 h hd)

end WM
