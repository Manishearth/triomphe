/-!
# The count word as a counting history

One allocation's count word with the memory orderings left out: the RMWs on it, in modification order, are a list of `Op`s —
`inc c src` the `fetch_add` of a clone through handle `src` that creates handle `c`, `dec h` the `fetch_sub` of dropping `h`;
handle 0 is the one the constructor returns and the word starts at 1.  In a well-formed history (`WF`) the word is the number
of live handles, so nothing can follow the decrement that takes it to 0 (`zero_is_final`).
-/
namespace WM

abbrev H := Nat

inductive Op where
  | inc (child : H) (src : H)
  | dec (h : H)
deriving DecidableEq, Repr

def stepLive (live : List H) : Op → List H
  | .inc c _ => c :: live
  | .dec h => live.erase h

def stepBorn (born : List H) : Op → List H
  | .inc c _ => c :: born
  | .dec _ => born

def stepVal (v : Int) : Op → Int
  | .inc _ _ => v + 1
  | .dec _ => v - 1

structure St where
  live : List H
  born : List H
  val : Int

def St.init : St := ⟨[0], [0], 1⟩
def St.step (s : St) (o : Op) : St := ⟨stepLive s.live o, stepBorn s.born o, stepVal s.val o⟩
def run (ops : List Op) : St := ops.foldl St.step St.init

/-- what ownership discipline and coherence give of the op at each position of the modification order (`enabled_at`) -/
def Enabled (s : St) : Op → Prop
  | .inc c src => src ∈ s.live ∧ c ∉ s.born
  | .dec h => h ∈ s.live

inductive WF : List Op → Prop
  | nil : WF []
  | snoc {ops o} : WF ops → Enabled (run ops) o → WF (ops ++ [o])

structure Inv (s : St) : Prop where
  nodup : s.live.Nodup
  sub : ∀ h, h ∈ s.live → h ∈ s.born
  val : s.val = s.live.length

theorem run_snoc (ops : List Op) (o : Op) : run (ops ++ [o]) = (run ops).step o := by
  simp [run, List.foldl_append]

theorem inv_init : Inv St.init := ⟨by simp [St.init], by simp [St.init], by simp [St.init]⟩

theorem inv_step {s : St} {o : Op} (hi : Inv s) (he : Enabled s o) : Inv (s.step o) := by
  cases o with
  | inc c src =>
    obtain ⟨_, hc⟩ := he
    refine ⟨?_, ?_, ?_⟩
    · simp only [St.step, stepLive, List.nodup_cons]
      exact ⟨fun h => hc (hi.sub _ h), hi.nodup⟩
    · intro h hh
      simp only [St.step, stepLive, stepBorn, List.mem_cons] at hh ⊢
      rcases hh with rfl | hh
      · exact Or.inl rfl
      · exact Or.inr (hi.sub _ hh)
    · simp [St.step, stepLive, stepVal, hi.val]
  | dec h =>
    refine ⟨?_, ?_, ?_⟩
    · exact hi.nodup.erase h
    · intro x hx
      exact hi.sub _ (List.mem_of_mem_erase hx)
    · simp only [St.step, stepLive, stepVal, hi.val, List.length_erase_of_mem he]
      have : 0 < s.live.length := List.length_pos_of_mem he
      omega

theorem inv_run {ops : List Op} (h : WF ops) : Inv (run ops) := by
  induction h with
  | nil => exact inv_init
  | snoc _ he ih => rw [run_snoc]; exact inv_step ih he

theorem live_nil_of_val {s : St} (hi : Inv s) (hz : s.val = 0) : s.live = [] := by
  have := hi.val; rw [hz] at this
  exact List.eq_nil_of_length_eq_zero (by omega)

theorem live_singleton_of_val {s : St} (hi : Inv s) (hv : s.val = 1) {h : H} (hh : h ∈ s.live) :
    s.live = [h] := by
  have hlen : s.live.length = 1 := by have := hi.val; rw [hv] at this; omega
  obtain ⟨x, hx⟩ := List.length_eq_one_iff.1 hlen
  rw [hx] at hh ⊢
  rw [List.mem_singleton.1 hh]

theorem wf_snoc_inv {ops : List Op} {o : Op} (h : WF (ops ++ [o])) : WF ops ∧ Enabled (run ops) o := by
  generalize hl : ops ++ [o] = l at h
  cases h with
  | nil => simp at hl
  | @snoc ops' o' hw he =>
    obtain ⟨rfl, ho⟩ := List.append_inj' hl rfl
    cases ho
    exact ⟨hw, he⟩

theorem zero_is_final {ops : List Op} {o : Op} (h : WF (ops ++ [o])) (hz : (run ops).val = 0) : False := by
  obtain ⟨hw, he⟩ := wf_snoc_inv h
  have hl : (run ops).live = [] := live_nil_of_val (inv_run hw) hz
  -- either kind of op needs a live handle
  cases o <;> simp [Enabled, hl] at he

end WM
